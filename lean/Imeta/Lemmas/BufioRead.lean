/-
  C08 — the bufio model: filling keeps the logical stream; Read / io.ReadFull / box.Read / Discard over it: short reads
  never show.
-/
import Imeta.Model.Bufio
namespace Imeta.Bufio
open Imeta

theorem src_read_spec (s : Src) (max : Nat) (hm : 0 < max) (hr : s.rest ≠ []) :
    (s.read max).1 ≠ [] ∧ (s.read max).1.length ≤ max ∧ (s.read max).1 ++ (s.read max).2.rest = s.rest := by
  unfold Src.read
  refine ⟨fun h => ?_, ?_, List.take_append_drop ..⟩
  · rcases List.take_eq_nil_iff.mp h with h | h
    · revert h; cases s.sched <;> simp only <;> (try split) <;> omega
    · exact hr h
  · simp only [List.length_take]
    cases s.sched <;> simp only <;> (try split) <;> omega

theorem read_none (b b' : Br) (max : Nat) (h : b.read max = (none, b')) : b.logical = [] ∧ b' = b := by
  unfold Br.read at h
  by_cases hb : b.buf ≠ []
  · rw [if_pos hb] at h; cases h
  rw [if_neg hb] at h
  by_cases hr : b.src.rest = []
  · rw [if_pos hr] at h
    exact ⟨by rw [Br.logical, Decidable.not_not.mp hb, hr]; rfl, (Prod.mk.inj h).2.symm⟩
  · rw [if_neg hr] at h
    split at h <;> cases h

theorem read_some (b b' : Br) (max : Nat) (got : Bytes) (hm : 0 < max) (h : b.read max = (some got, b')) :
    got ≠ [] ∧ got.length ≤ max ∧ got ++ b'.logical = b.logical ∧ b'.size = b.size := by
  have tk : ∀ l : Bytes, l ≠ [] → l.take max ≠ [] ∧ (l.take max).length ≤ max := fun l hl =>
    ⟨fun h => (List.take_eq_nil_iff.mp h).elim (by omega) hl, by simp only [List.length_take]; omega⟩
  unfold Br.read at h
  by_cases hne : b.buf ≠ []
  · -- buffered bytes first
    rw [if_pos hne] at h
    obtain ⟨⟨rfl⟩, rfl⟩ := Prod.mk.inj h
    exact ⟨(tk _ hne).1, (tk _ hne).2, by simp only [Br.logical]; rw [← List.append_assoc, List.take_append_drop], rfl⟩
  rw [if_neg hne] at h
  have hb : b.buf = [] := Decidable.not_not.mp hne
  by_cases hr : b.src.rest = []
  · rw [if_pos hr] at h; cases h
  rw [if_neg hr] at h
  split at h
  · -- one source read straight into p
    obtain ⟨⟨rfl⟩, rfl⟩ := Prod.mk.inj h
    obtain ⟨h1, h2, h3⟩ := src_read_spec b.src max hm hr
    exact ⟨h1, h2, by simp only [Br.logical, hb, List.nil_append]; exact h3, rfl⟩
  · -- one source read into the buffer, of which p gets its share
    obtain ⟨⟨rfl⟩, rfl⟩ := Prod.mk.inj h
    obtain ⟨h1, -, h3⟩ := src_read_spec b.src b.size (by omega) hr
    exact ⟨(tk _ h1).1, (tk _ h1).2, by simp only [Br.logical, hb, List.nil_append]; rw [← List.append_assoc, List.take_append_drop]; exact h3, rfl⟩

/-- one round of a read loop: `got` arrived and `l'` is the stream behind it -/
theorem take_drop_chunk {got l' l : Bytes} {m : Nat} (h : got ++ l' = l) (hm : got.length ≤ m) :
    l.take m = got ++ l'.take (m - got.length) ∧ l.drop m = l'.drop (m - got.length) := by
  subst h
  rw [List.take_append, List.drop_append, List.take_of_length_le hm, List.drop_of_length_le hm, List.nil_append]
  exact ⟨rfl, rfl⟩

/-- The fuel (here and for `boxReadFull`, `boxReadChunked`, `discard`): `n < f` is enough because every round that goes on has
delivered at least one byte (`read_some`, `boxRead_some`). -/
theorem readFull_spec : ∀ (f : Nat) (b : Br) (n : Nat), n < f →
    (readFull f b n).1 = b.logical.take n ∧ (readFull f b n).2.1 = decide (n ≤ b.logical.length) ∧
    (readFull f b n).2.2.logical = b.logical.drop n := by
  intro f
  induction f with
  | zero => intro b n h; omega
  | succ f ih =>
    intro b n hn
    unfold readFull
    split
    · rename_i h0; subst h0; simp
    · rename_i h0
      split
      · rename_i b' hr
        obtain ⟨hl, rfl⟩ := read_none b b' n hr
        simp only [hl, List.take_nil, List.length_nil, List.drop_nil, true_and]
        simp; omega
      · rename_i got b' hr
        obtain ⟨hne, hle, happ, _⟩ := read_some b b' n got (by omega) hr
        have hgl : 0 < got.length := List.length_pos_iff.mpr hne
        obtain ⟨i1, i2, i3⟩ := ih b' (n - got.length) (by omega)
        obtain ⟨ht, hd⟩ := take_drop_chunk happ hle
        simp only
        rw [i1, i2, i3, ht, hd, ← happ]
        refine ⟨rfl, ?_, rfl⟩
        simp only [List.length_append, decide_eq_decide]; omega

theorem minAll_cons_le (a : Nat) (t : List Nat) : minAll (a :: t) ≤ a := by
  cases t with
  | nil => exact Nat.le_refl _
  | cons b t' => unfold minAll; exact Nat.min_le_left _ _

theorem minAll_le_mem : ∀ (ls : List Nat) (x : Nat), x ∈ ls → minAll ls ≤ x := by
  intro ls
  induction ls with
  | nil => intro x hx; cases hx
  | cons a t ih =>
    intro x hx
    cases t with
    | nil => simp only [List.mem_singleton] at hx; rw [hx]; exact Nat.le_refl _
    | cons b t' =>
      unfold minAll
      rw [List.mem_cons] at hx
      rcases hx with rfl | hx
      · exact Nat.min_le_left _ _
      · exact Nat.le_trans (Nat.min_le_right _ _) (ih x hx)

theorem minAll_map_sub : ∀ (ls : List Nat) (k : Nat), minAll (ls.map (· - k)) = minAll ls - k := by
  intro ls
  induction ls with
  | nil => intro k; exact (Nat.zero_sub k).symm
  | cons a t ih =>
    intro k
    cases t with
    | nil => rfl
    | cons b t' =>
      show min (a - k) (minAll ((b :: t').map (· - k))) = min a (minAll (b :: t')) - k
      rw [ih k, Nat.sub_min_sub_right]

theorem map_sub_sub (ls : List Nat) (j k : Nat) : (ls.map (· - j)).map (· - k) = ls.map (· - (j + k)) := by
  rw [List.map_map]
  exact List.map_congr_left fun x _ => Nat.sub_sub x j k

theorem boxRead_none (ls ls' : List Nat) (b b' : Br) (max : Nat) (h : boxRead ls b max = (none, ls', b')) :
    (minAll ls = 0 ∨ b.logical = []) ∧ ls' = ls ∧ b' = b := by
  unfold boxRead at h
  split at h
  · rename_i h0
    simp only [Prod.mk.injEq, true_and] at h
    exact ⟨Or.inl h0, h.1.symm, h.2.symm⟩
  · split at h
    · rename_i b2 hr
      simp only [Prod.mk.injEq, true_and] at h
      obtain ⟨hl, hb⟩ := read_none b b2 _ hr
      exact ⟨Or.inr hl, h.1.symm, by rw [← h.2, hb]⟩
    · simp at h

theorem boxRead_some (ls ls' : List Nat) (b b' : Br) (max : Nat) (got : Bytes) (hm : 0 < max)
    (h : boxRead ls b max = (some got, ls', b')) :
    got ≠ [] ∧ got.length ≤ max ∧ got.length ≤ minAll ls ∧ got ++ b'.logical = b.logical ∧ ls' = ls.map (· - got.length) := by
  unfold boxRead at h
  split at h
  · simp at h
  · rename_i h0
    split at h
    · simp at h
    · rename_i g2 b2 hr
      simp only [Prod.mk.injEq, Option.some.injEq] at h
      obtain ⟨rfl, rfl, rfl⟩ := h
      obtain ⟨h1, h2, h3, _⟩ := read_some b b2 _ g2 (by omega) hr
      exact ⟨h1, by omega, by omega, h3, rfl⟩

theorem boxReadFull_spec : ∀ (f : Nat) (ls : List Nat) (b : Br) (n : Nat), n < f →
    (boxReadFull f ls b n).1 = b.logical.take (min n (minAll ls)) ∧
    (boxReadFull f ls b n).2.1 = decide (n ≤ minAll ls ∧ n ≤ b.logical.length) ∧
    (boxReadFull f ls b n).2.2.1 = ls.map (· - (boxReadFull f ls b n).1.length) ∧
    (boxReadFull f ls b n).2.2.2.logical = b.logical.drop (min n (minAll ls)) := by
  intro f
  induction f with
  | zero => intro ls b n h; omega
  | succ f ih =>
    intro ls b n hn
    unfold boxReadFull
    split
    · rename_i h0; subst h0; simp
    · rename_i h0
      split
      · -- the Read reports the end: a box of the chain has nothing left, or the stream is empty
        rename_i ls' b' hr
        obtain ⟨hcase, rfl, rfl⟩ := boxRead_none ls ls' b b' n hr
        simp only [List.length_nil, Nat.sub_zero, List.map_id', true_and]
        rcases hcase with hz | hl
        · rw [hz]; simp; omega
        · rw [hl]; simp; omega
      · -- `got` arrived (within `n` and the tightest box) and every box is charged `got.length`; the rest of `n` by induction
        rename_i got ls' b' hr
        obtain ⟨hne, hle, hlim, happ, rfl⟩ := boxRead_some ls ls' b b' n got (by omega) hr
        have hgl : 0 < got.length := List.length_pos_iff.mpr hne
        obtain ⟨i1, i2, i3, i4⟩ := ih (ls.map (· - got.length)) b' (n - got.length) (by omega)
        -- the two parts make up the first `min n (minAll ls)` bytes, and the charges add up
        rw [minAll_map_sub, Nat.sub_min_sub_right] at i1 i4
        obtain ⟨ht, hd⟩ := take_drop_chunk happ (Nat.le_min.mpr ⟨hle, hlim⟩)
        rw [i2, i4, ht, hd, ← i1, i3, map_sub_sub, List.length_append, minAll_map_sub, ← happ]
        refine ⟨rfl, ?_, rfl, rfl⟩
        simp only [List.length_append, decide_eq_decide]; omega

/-- **the invariant**: filling never changes the logical stream, whatever the schedule -/
theorem fill_logical (f : Nat) (b : Br) (n : Nat) : (fill f b n).logical = b.logical := by
  induction f generalizing b with
  | zero => rfl
  | succ k ih =>
    unfold fill
    split
    · rfl
    · rw [ih]
      simp only [Br.logical, List.append_assoc]
      congr 1
      unfold Src.read; simp

theorem fill_size (f : Nat) (b : Br) (n : Nat) : (fill f b n).size = b.size := by
  induction f generalizing b with
  | zero => rfl
  | succ k ih => unfold fill; split; rfl; rw [ih]

/-- with one unit of fuel per unread source byte the loop ends for a reason other than fuel -/
theorem fill_done (f : Nat) (b : Br) (n : Nat) (hf : b.src.rest.length < f) :
    n ≤ (fill f b n).buf.length ∨ (fill f b n).src.rest = [] ∨ (fill f b n).size ≤ (fill f b n).buf.length := by
  induction f generalizing b with
  | zero => omega
  | succ k ih =>
    unfold fill
    split
    · assumption
    · rename_i hc
      simp only [not_or, Nat.not_le] at hc
      apply ih
      have h3 := src_read_spec b.src (b.size - b.buf.length) (by omega) hc.2.1
      have hl := congrArg List.length h3.2.2
      have hp : 0 < (b.src.read (b.size - b.buf.length)).1.length := List.length_pos_iff.mpr h3.1
      simp only [List.length_append] at hl
      simp only
      omega

theorem fill_buf_nil (b : Br) (n : Nat) (hn : 0 < n) (hs : 0 < b.size) (he : (fill (b.src.rest.length + 1) b n).buf = []) :
    b.logical = [] := by
  have hd := fill_done (b.src.rest.length + 1) b n (by omega)
  rw [fill_size, he, List.length_nil] at hd
  rw [← fill_logical (b.src.rest.length + 1) b n, Br.logical, he, List.nil_append]
  rcases hd with hd | hd | hd
  · omega
  · exact hd
  · omega

theorem discard_spec : ∀ (f : Nat) (b : Br) (n : Nat), n < f → 0 < b.size →
    (discard f b n).1 = min n b.logical.length ∧ (discard f b n).2.logical = b.logical.drop n ∧ (discard f b n).2.size = b.size := by
  intro f
  induction f with
  | zero => intro b n h; omega
  | succ f ih =>
    intro b n hn hs
    unfold discard
    split
    · rename_i h0; subst h0; simp
    · rename_i h0
      simp only
      -- an empty buffer is filled first: `b1`, the same logical stream
      generalize hb1 : (if b.buf = [] then fill (b.src.rest.length + 1) b 1 else b) = b1
      have hl1 : b1.logical = b.logical := by rw [← hb1, apply_ite Br.logical, fill_logical, ite_self]
      have hs1 : b1.size = b.size := by rw [← hb1, apply_ite Br.size, fill_size, ite_self]
      split
      · -- still empty: the stream has ended (`fill_buf_nil`), nothing is discarded
        rename_i he
        have hnil : b.logical = [] := by
          rw [← hb1] at he
          split at he
          · exact fill_buf_nil b 1 (by omega) hs he
          · exact absurd he ‹_›
        rw [hl1, hnil]
        exact ⟨by simp, List.drop_nil.symm, hs1⟩
      · -- `min n |buf|` buffered bytes go, at least one; the rest of `n` by induction
        rename_i hne
        have hpos : 0 < b1.buf.length := List.length_pos_iff.mpr hne
        have hk : min n b1.buf.length ≤ b1.buf.length := Nat.min_le_right _ _
        obtain ⟨i1, i2, i3⟩ := ih { b1 with buf := b1.buf.drop (min n b1.buf.length) } (n - min n b1.buf.length) (by omega) (by simp only; omega)
        have hlog : ({ b1 with buf := b1.buf.drop (min n b1.buf.length) } : Br).logical = b.logical.drop (min n b1.buf.length) := by
          rw [← hl1]; exact (List.drop_append_of_le_length hk).symm
        have hlen : b.logical.length = b1.buf.length + b1.src.rest.length := by rw [← hl1]; exact List.length_append
        rw [i1, i2, i3, hlog]
        refine ⟨?_, ?_, hs1⟩
        · rw [List.length_drop, Nat.sub_min_sub_right, Nat.add_sub_cancel']
          exact Nat.le_min.mpr ⟨Nat.min_le_left _ _, by omega⟩
        · rw [List.drop_drop, Nat.add_sub_cancel' (Nat.min_le_left _ _)]

theorem boxReadChunked_spec (cap : Nat) (hcap : 0 < cap) : ∀ (f : Nat) (ls : List Nat) (b : Br) (n : Nat), n < f →
    (boxReadChunked cap f ls b n).1 = b.logical.take (min n (minAll ls)) ∧
    (boxReadChunked cap f ls b n).2.1 = ls.map (· - (boxReadChunked cap f ls b n).1.length) ∧
    (boxReadChunked cap f ls b n).2.2.logical = b.logical.drop (min n (minAll ls)) := by
  intro f
  induction f with
  | zero => intro ls b n h; omega
  | succ f ih =>
    intro ls b n hn
    unfold boxReadChunked
    split
    · rename_i h0; subst h0; simp
    · rename_i h0
      split
      · -- the Read reports the end: a box of the chain has nothing left, or the stream is empty
        rename_i ls' b' hr
        obtain ⟨hcase, rfl, rfl⟩ := boxRead_none ls ls' b b' _ hr
        simp only [List.length_nil, Nat.sub_zero, List.map_id', true_and]
        rcases hcase with hz | hl
        · rw [hz]; simp
        · rw [hl]; simp
      · -- `got` arrived (within `min n cap` and the tightest box) and every box is charged `got.length`; the rest of `n` by induction
        rename_i got ls' b' hr
        obtain ⟨hne, hle, hlim, happ, rfl⟩ := boxRead_some ls ls' b b' _ got (by omega) hr
        have hgl : 0 < got.length := List.length_pos_iff.mpr hne
        obtain ⟨i1, i3, i4⟩ := ih (ls.map (· - got.length)) b' (n - got.length) (by omega)
        -- the two parts make up the first `min n (minAll ls)` bytes, and the charges add up
        rw [minAll_map_sub, Nat.sub_min_sub_right] at i1 i4
        obtain ⟨ht, hd⟩ := take_drop_chunk happ (Nat.le_min.mpr ⟨Nat.le_trans hle (Nat.min_le_left n cap), hlim⟩)
        rw [i4, ht, hd, ← i1, i3, map_sub_sub, List.length_append]
        exact ⟨rfl, rfl, rfl⟩

end Imeta.Bufio
