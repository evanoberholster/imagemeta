/-
  Directories in a forward layout, from the directory bytes on.  IFD0 with value tags and pointers to the Exif and GPS
  directories (themselves flat), everything laid out forward without overlap (`World`, `DirOK`): every read of the whole
  walk is exact (`readIfd_nested`, `decodeTiff_nested`).  The extent of a pending tag is given by a function `sz` (the
  value size for a value tag, the extent of the child directory for a pointer).  The decoded entries of a directory are a
  list (`entries`, `outs`, `embs`), and each layer says what it does exactly: the entries loop and `readIfdHeader` turn the
  queue into a permutation of the old queue followed by the out-of-line entries and parse the embedded ones in order
  (`entriesLoop_spec`, `readIfdHeader_spec`), given that old queue and new entries fit the queue together (`Fits`); the work
  loop leaves the parse record a permutation of what it was followed by what each pending tag adds (`parsedOfTag`,
  `ifdLoop_nested`; a pointer at the head of the queue: `ifdChild_ptr_spec`).  A flat directory (value tags only, `FlatDir`) is the
  layout without pointers (`FlatDir.world`, `decodeTiff_flat`).
-/
import Imeta.Lemmas.ExifForward
namespace Imeta.Exif
open Imeta

variable {ex0 : Rec}

def Disj (a b : Tag) : Prop := a.off + a.size ≤ b.off ∨ b.off + b.size ≤ a.off

def Lay (l : List Tag) : Prop := l.Pairwise (fun a b => a.off + a.size ≤ b.off)

/-- entry k of a directory, as the entries loop decodes it -/
def entryAt (ifd : Ifd) (buf : Bytes) (k : Nat) : Outcome (Option Tag) := slc buf (k * 12) buf.length >>= tagFromBuffer ifd

/-- what the flat-directory theorem asks of an entry: a value tag (no directory pointer, no sub-IFD list); embedded
entries give no parser a reason to read; out-of-line values lie at or after D (the end of the directory), inside the file,
the Exif length and the reader's window.  `Reads` goes by the type alone, so an embedded ASCII entry whose parser never
reads (GPSLatitudeRef "N\0", a short SubSecTime) is not `Good`, and a directory that has one is outside these theorems. -/
def Good (F : Bytes) (D exl lim : Nat) (t : Tag) : Prop :=
  t.typ ≠ tIfd ∧ ¬(t.id = 0x014a ∧ t.ifd = ifd0) ∧ (t.isEmbedded = true → ¬ Reads t) ∧
  (t.isEmbedded = false → D ≤ t.off ∧ t.off + t.size ≤ F.length ∧ t.off + t.size ≤ exl ∧ t.size ≤ lim)

theorem size_pos_of_outofline (t : Tag) (h1 : t.typ ≠ tIfd) (h2 : t.isEmbedded = false) : 0 < t.size := by
  unfold Tag.isEmbedded at h2
  rcases Bool.and_eq_false_iff.mp h2 with h | h
  · have := of_decide_eq_false h; omega
  · exact absurd (bne_eq_false_iff_eq.mp h) h1

theorem readLimit_ge (r : R) : 4 ≤ readLimit r := by
  unfold readLimit bufioSize scratchSize; split <;> omega

/-- the hypotheses of the flat-directory theorems, for a directory at offset d of the file F read with byte order and
directory type `ifd` under Exif length `exl` and read window `lim` -/
structure FlatDir (F : Bytes) (ifd : Ifd) (d cnt exl lim : Nat) : Prop where
  inFile : d + 2 + 12 * cnt + 4 ≤ F.length
  inExif : d + 2 + 12 * cnt + 4 ≤ exl
  count : u16 ifd.order ((F.drop d).take 2) = .ok cnt
  small : cnt ≤ 83      -- the queue cap, see `World.cap`; as written it also bounds a directory whose entries are all embedded
  window : 12 * cnt ≤ lim
  good : ∀ k t, k < cnt → entryAt ifd ((F.drop (d + 2)).take (cnt * 12)) k = .ok (some t) → Good F (d + 2 + 12 * cnt + 4) exl lim t
  disj : ∀ k k' t t', k < cnt → k' < cnt → k ≠ k' → entryAt ifd ((F.drop (d + 2)).take (cnt * 12)) k = .ok (some t) →
      entryAt ifd ((F.drop (d + 2)).take (cnt * 12)) k' = .ok (some t') → t.isEmbedded = false → t'.isEmbedded = false → Disj t t'
  next : ifd.typ = ifd0 → u32 ifd.order ((F.drop (d + 2 + 12 * cnt)).take 4) = .ok 0

/-- `Disj` and `Lay` with the extent of a tag given by `sz` (a pointer stands for the directory it leads to, see `extent`) -/
def DisjS (sz : Tag → Nat) (a b : Tag) : Prop := a.off + sz a ≤ b.off ∨ b.off + sz b ≤ a.off
def LayS (sz : Tag → Nat) (l : List Tag) : Prop := l.Pairwise (fun a b => a.off + sz a ≤ b.off)

theorem LayS.sorted {sz : Tag → Nat} {l : List Tag} (h : LayS sz l) : Sorted l := by
  unfold LayS at h; unfold Sorted
  exact h.imp (fun hab => Nat.le_trans (Nat.le_add_right _ _) hab)

theorem Lay.sorted {l : List Tag} (h : Lay l) : Sorted l := LayS.sorted (sz := Tag.size) h

theorem layS_insert (sz : Tag → Nat) (l : List Tag) (hl : LayS sz l) (t : Tag) (ht : 0 < sz t) (hd : ∀ x ∈ l, DisjS sz t x ∧ 0 < sz x) (i : Nat)
    (hlo : ∀ x ∈ l.take i, x.off ≤ t.off) (hhi : ∀ x ∈ l.drop i, t.off ≤ x.off) : LayS sz (l.take i ++ t :: l.drop i) := by
  refine pairwise_insert hl i (fun x hx => ?_) fun x hx => ?_
  · obtain ⟨h1, _⟩ := hd x (List.mem_of_mem_take hx)
    have := hlo x hx
    unfold DisjS at h1
    omega
  · obtain ⟨h1, _⟩ := hd x (List.mem_of_mem_drop hx)
    have := hhi x hx
    unfold DisjS at h1
    omega

/-- the out-of-line entries of the directory at d, as the reader decodes them -/
def IsEntry (F : Bytes) (ifd : Ifd) (d cnt : Nat) (x : Tag) : Prop :=
  ∃ k, k < cnt ∧ entryAt ifd ((F.drop (d + 2)).take (cnt * 12)) k = .ok (some x) ∧ x.isEmbedded = false

def AnyEntry (F : Bytes) (ifd : Ifd) (d cnt : Nat) (x : Tag) : Prop :=
  ∃ k, k < cnt ∧ entryAt ifd ((F.drop (d + 2)).take (cnt * 12)) k = .ok (some x)

/-- the pending tag readNextIfdTag queues for a second top-level directory (IFD1) at nx -/
def stubOf (ifd : Ifd) (nx : Nat) : Tag :=
  { id := 0x014a, typ := tIfd, count := 4, off := nx, ifd := ifd0, idx := (ifd.idx + 1) % 256, order := ifd.order }

/-- such a tag: the work loop seeks to it and reads nothing -/
def IsStub (t : Tag) : Prop := t.typ = tIfd ∧ t.ifd = ifd0 ∧ t.id = 0x014a

def IsStubEntry (F : Bytes) (ifd : Ifd) (d cnt : Nat) (x : Tag) : Prop :=
  ifd.typ = ifd0 ∧ ∃ nx, nx ≠ 0 ∧ u32 ifd.order ((F.drop (d + 2 + 12 * cnt)).take 4) = .ok nx ∧ x = stubOf ifd nx

/-- what reading a directory at d needs, with extents given by `sz` (entries may be pointers) -/
structure DirOK (F : Bytes) (ifd : Ifd) (d cnt exl lim : Nat) (sz : Tag → Nat) : Prop where
  inFile : d + 2 + 12 * cnt + 4 ≤ F.length
  inExif : d + 2 + 12 * cnt + 4 ≤ exl
  count : u16 ifd.order ((F.drop d).take 2) = .ok cnt
  small : cnt ≤ 83      -- as in `FlatDir`
  window : 12 * cnt ≤ lim
  good : ∀ k t, k < cnt → entryAt ifd ((F.drop (d + 2)).take (cnt * 12)) k = .ok (some t) →
    (t.isEmbedded = true → ¬ Reads t) ∧ (t.isEmbedded = false → d + 2 + 12 * cnt + 4 ≤ t.off ∧ 0 < sz t)
  disj : ∀ k k' t t', k < cnt → k' < cnt → k ≠ k' → entryAt ifd ((F.drop (d + 2)).take (cnt * 12)) k = .ok (some t) →
    entryAt ifd ((F.drop (d + 2)).take (cnt * 12)) k' = .ok (some t') → t.isEmbedded = false → t'.isEmbedded = false → DisjS sz t t'
  next : ifd.typ = ifd0 → ∃ nx, u32 ifd.order ((F.drop (d + 2 + 12 * cnt)).take 4) = .ok nx ∧
    (nx = 0 ∨ (d + 2 + 12 * cnt + 4 ≤ nx ∧ 0 < sz (stubOf ifd nx) ∧
      ∀ k t, k < cnt → entryAt ifd ((F.drop (d + 2)).take (cnt * 12)) k = .ok (some t) → t.isEmbedded = false → DisjS sz (stubOf ifd nx) t))

theorem FlatDir.dirOK {F : Bytes} {ifd : Ifd} {d cnt exl lim : Nat} (h : FlatDir F ifd d cnt exl lim) (sz : Tag → Nat)
    (hsz : ∀ t : Tag, t.typ ≠ tIfd → sz t = t.size) : DirOK F ifd d cnt exl lim sz := by
  refine ⟨h.inFile, h.inExif, h.count, h.small, h.window, ?_, ?_, fun h0 => ⟨0, h.next h0, Or.inl rfl⟩⟩
  · intro k t hk e
    have g := h.good k t hk e
    exact ⟨g.2.2.1, fun ho => ⟨(g.2.2.2 ho).1, by rw [hsz t g.1]; exact size_pos_of_outofline t g.1 ho⟩⟩
  · intro k k' t t' hk hk' hne e e' o o'
    have := h.disj k k' t t' hk hk' hne e e' o o'
    have g1 := h.good k t hk e
    have g2 := h.good k' t' hk' e'
    unfold DisjS; rw [hsz t g1.1, hsz t' g2.1]; exact this

/-- a pointer in IFD0 to the GPS (0x8825) or Exif (0x8769) directory, retyped to `tIfd` by `tagIsIfd` -/
def IsPtr (t : Tag) : Prop := t.typ = tIfd ∧ t.ifd = ifd0 ∧ (t.id = 0x8825 ∨ t.id = 0x8769)

def ptrCount (F : Bytes) (t : Tag) : Nat :=
  match u16 t.order ((F.drop t.off).take 2) with
  | .ok c => c
  | _ => 0

/-- the bytes a pending tag stands for: its value, or the directory (count, entries, next pointer) it points at -/
def extent (F : Bytes) (t : Tag) : Nat := if t.typ = tIfd then 2 + 12 * ptrCount F t + 4 else t.size

theorem extent_value (F : Bytes) (t : Tag) (h : t.typ ≠ tIfd) : extent F t = t.size := by unfold extent; rw [if_neg h]
theorem extent_ptr (F : Bytes) (t : Tag) (h : t.typ = tIfd) : extent F t = 2 + 12 * ptrCount F t + 4 := by unfold extent; rw [if_pos h]

/-- the layout: which tags belong to it (W), what is asked of them.  The bound in `cap` is 83 = tagMaxCount − 1: it is
used on the queue before each insertion, where `addTagBuffer` asks for `len < 84`. -/
structure World (F : Bytes) (exl lim : Nat) (W : Tag → Prop) : Prop where
  -- `ok`: a value tag inside the file and the limits, or a pointer to a flat directory, or the IFD1 pointer
  ok : ∀ x, W x → (x.typ ≠ tIfd ∧ ¬(x.id = 0x014a ∧ x.ifd = ifd0) ∧ x.isEmbedded = false ∧ x.off + x.size ≤ F.length ∧
      x.off + x.size ≤ exl ∧ x.size ≤ lim) ∨ (IsPtr x ∧ FlatDir F x.childIfd x.off (ptrCount F x) exl lim) ∨
      (IsStub x ∧ x.off ≤ F.length ∧ x.off ≤ exl)
  disj : ∀ x y, W x → W y → x ≠ y → DisjS (extent F) x y
  child : ∀ p, W p → IsPtr p → ∀ c, IsEntry F p.childIfd p.off (ptrCount F p) c → W c      -- what a pointer's directory queues
  uniq : ∀ p q, W p → W q → IsPtr p → IsPtr q → p.id = q.id → p = q                         -- one pointer of each kind
  cap : ∀ l : List Tag, LayS (extent F) l → (∀ x ∈ l, W x) → l.length ≤ 83

theorem World.extent_pos {F : Bytes} {exl lim : Nat} {W : Tag → Prop} (w : World F exl lim W) (x : Tag) (hx : W x) : 0 < extent F x := by
  rcases w.ok x hx with h | h | h
  · rw [extent_value F x h.1]; exact size_pos_of_outofline x h.1 h.2.2.1
  · rw [extent_ptr F x h.1.1]; omega
  · rw [extent_ptr F x h.1.1]; omega

theorem entry_ifd (ifd : Ifd) (buf : Bytes) (k : Nat) (c : Tag) (h : entryAt ifd buf k = .ok (some c)) : c.ifd = ifd.typ := by
  unfold entryAt at h
  obtain ⟨e, _, h⟩ := Outcome.bind_eq_ok h
  unfold tagFromBuffer at h
  obtain ⟨id, _, h⟩ := Outcome.bind_eq_ok h
  obtain ⟨ty, _, h⟩ := Outcome.bind_eq_ok h
  obtain ⟨cnt, _, h⟩ := Outcome.bind_eq_ok h
  obtain ⟨vo, _, h⟩ := Outcome.bind_eq_ok h
  dsimp only at h
  split at h
  · simp only [Outcome.ok.injEq, Option.some.injEq] at h; rw [← h]
  · simp at h

theorem childType_ne (p q : Tag) (hp : IsPtr p) (hq : IsPtr q) (hne : p.id ≠ q.id) : p.childIfd.typ ≠ q.childIfd.typ := by
  unfold Tag.childIfd
  dsimp only
  rw [if_pos hp.2.1, if_pos hq.2.1]
  rcases hp.2.2 with h1 | h1 <;> rcases hq.2.2 with h2 | h2
  · omega
  · rw [h1, h2]; decide
  · rw [h1, h2]; decide
  · omega

theorem childType_ne_ifd0 (p : Tag) (hp : IsPtr p) : ifd0 ≠ p.childIfd.typ := by
  unfold Tag.childIfd
  dsimp only
  rw [if_pos hp.2.1]
  rcases hp.2.2 with h1 | h1
  · rw [h1]; decide
  · rw [h1]; decide

theorem cap_of_list (F : Bytes) (ws : List Tag) (hlen : ws.length ≤ 83) (W : Tag → Prop) (hW : ∀ x, W x → x ∈ ws)
    (hpos : ∀ x, W x → 0 < extent F x) : ∀ l : List Tag, LayS (extent F) l → (∀ x ∈ l, W x) → l.length ≤ 83 := by
  intro l hl hm
  have hnd : l.Nodup := by
    unfold LayS at hl
    unfold List.Nodup
    refine List.Pairwise.imp_of_mem ?_ hl
    intro a b ha _ hab heq
    have := hpos a (hm a ha)
    rw [← heq] at hab
    omega
  exact Nat.le_trans (hnd.length_le_of_subset (fun x hx => hW x (hm x hx))) hlen

def entriesFrom (ifd : Ifd) (buf : Bytes) : Nat → Nat → List Tag
  | _, 0 => []
  | i, n+1 => (match entryAt ifd buf i with | .ok (some t) => [t] | _ => []) ++ entriesFrom ifd buf (i + 1) n

theorem mem_entriesFrom {ifd : Ifd} {buf : Bytes} {t : Tag} : ∀ {n i : Nat},
    t ∈ entriesFrom ifd buf i n ↔ ∃ k, i ≤ k ∧ k < i + n ∧ entryAt ifd buf k = .ok (some t) := by
  intro n
  induction n with
  | zero => intro i; simp [entriesFrom]; intro k h1 h2; omega
  | succ n ih =>
    intro i
    unfold entriesFrom
    rw [List.mem_append, ih]
    constructor
    · rintro (h | ⟨k, h1, h2, h3⟩)
      · split at h
        · rename_i t' he; simp only [List.mem_singleton] at h; subst h; exact ⟨i, Nat.le_refl _, by omega, he⟩
        · cases h
      · exact ⟨k, by omega, by omega, h3⟩
    · rintro ⟨k, h1, h2, h3⟩
      by_cases hk : k = i
      · subst hk; rw [h3]; exact Or.inl (by simp)
      · exact Or.inr ⟨k, by omega, by omega, h3⟩

theorem entriesFrom_length (ifd : Ifd) (buf : Bytes) : ∀ n i, (entriesFrom ifd buf i n).length ≤ n := by
  intro n
  induction n with
  | zero => intro i; exact Nat.le_refl _
  | succ n ih =>
    intro i
    unfold entriesFrom
    rw [List.length_append]
    have := ih (i + 1)
    split <;> simp <;> omega

theorem entriesFrom_pairwise {ifd : Ifd} {buf : Bytes} {R : Tag → Tag → Prop} : ∀ n i,
    (∀ k k' t t', i ≤ k → k < k' → k' < i + n → entryAt ifd buf k = .ok (some t) → entryAt ifd buf k' = .ok (some t') → R t t') →
    (entriesFrom ifd buf i n).Pairwise R := by
  intro n
  induction n with
  | zero => intro i _; exact List.Pairwise.nil
  | succ n ih =>
    intro i h
    unfold entriesFrom
    rw [List.pairwise_append]
    refine ⟨?_, ih (i + 1) fun k k' t t' h1 h2 h3 => h k k' t t' (by omega) h2 (by omega), ?_⟩
    · split <;> simp
    · intro a ha b hb
      obtain ⟨k', h1, h2, h3⟩ := mem_entriesFrom.mp hb
      split at ha
      · rename_i t he; simp only [List.mem_singleton] at ha; subst ha; exact h i k' a b (Nat.le_refl _) (by omega) (by omega) he h3
      · cases ha

section
variable (F : Bytes) (ifd : Ifd) (d cnt : Nat)

def entries : List Tag := entriesFrom ifd ((F.drop (d + 2)).take (cnt * 12)) 0 cnt
def outs : List Tag := (entries F ifd d cnt).filter (!·.isEmbedded)
def embs : List Tag := (entries F ifd d cnt).filter (·.isEmbedded)

def stubs : List Tag :=
  if ifd.typ = ifd0 then
    match u32 ifd.order ((F.drop (d + 2 + 12 * cnt)).take 4) with
    | .ok nx => if nx = 0 then [] else [stubOf ifd nx]
    | _ => []
  else []

variable {F ifd d cnt}

theorem mem_entries {x : Tag} : x ∈ entries F ifd d cnt ↔ AnyEntry F ifd d cnt x := by
  unfold entries AnyEntry
  rw [mem_entriesFrom]
  exact ⟨fun ⟨k, _, h2, h3⟩ => ⟨k, by omega, h3⟩, fun ⟨k, h2, h3⟩ => ⟨k, Nat.zero_le _, by omega, h3⟩⟩

theorem mem_outs {x : Tag} : x ∈ outs F ifd d cnt ↔ IsEntry F ifd d cnt x := by
  unfold outs IsEntry
  rw [List.mem_filter, mem_entries]
  exact ⟨fun ⟨⟨k, h1, h2⟩, h3⟩ => ⟨k, h1, h2, by simpa using h3⟩, fun ⟨k, h1, h2, h3⟩ => ⟨⟨k, h1, h2⟩, by simp [h3]⟩⟩

theorem mem_stubs {x : Tag} : x ∈ stubs F ifd d cnt ↔ IsStubEntry F ifd d cnt x := by
  unfold stubs IsStubEntry
  split
  · rename_i h0
    split
    · rename_i nx hu
      split
      · rename_i hz; subst hz
        exact ⟨(fun h => nomatch h), fun ⟨_, nx, hnz, hu', _⟩ => by rw [hu] at hu'; cases hu'; exact absurd rfl hnz⟩
      · rename_i hnz
        rw [List.mem_singleton]
        exact ⟨fun h => ⟨h0, nx, hnz, hu, h⟩, fun ⟨_, nx', _, hu', h⟩ => by rw [hu] at hu'; cases hu'; exact h⟩
    · rename_i hne
      exact ⟨(fun h => nomatch h), fun ⟨_, nx, _, hu, _⟩ => absurd hu (hne nx)⟩
  · rename_i h0
    exact ⟨(fun h => nomatch h), fun h => absurd h.1 h0⟩

end

structure Inv (tb : Tables) (ex0 : Rec) (F : Bytes) (exl lim : Nat) (r : R) : Prop where
  coh : Coh F r
  exact : Exact tb ex0 F r
  exl : r.exifLength = exl
  lim : readLimit r = lim

section
variable {tb : Tables} {F : Bytes} {exl lim : Nat} {r r' : R}

theorem Inv.transfer (h : Inv tb ex0 F exl lim r) (h1 : r'.rest = r.rest) (h2 : r'.po = r.po) (h3 : r'.exifLength = r.exifLength)
    (h4 : r'.buffered = r.buffered) (h5 : r'.reads = r.reads) (h6 : r'.ex = r.ex) (h7 : r'.parsed = r.parsed) :
    Inv tb ex0 F exl lim r' :=
  ⟨⟨by rw [h1, h2]; exact h.coh.rest, by rw [h2]; exact h.coh.le, h.coh.small⟩, h.exact.transfer h5 h6 h7, h3.trans h.exl,
    (readLimit_congr h4).trans h.lim⟩

theorem Inv.setPos (h : Inv tb ex0 F exl lim r) (p : Nat) : Inv tb ex0 F exl lim { r with pos := p } :=
  h.transfer rfl rfl rfl rfl rfl rfl rfl

theorem Inv.keep (h : Inv tb ex0 F exl lim r) (hk : Keep r r') (hc : Coh F r') : Inv tb ex0 F exl lim r' :=
  ⟨hc, h.exact.keep hk, hk.exl.trans h.exl, (readLimit_congr hk.buffered).trans h.lim⟩

theorem Inv.addTag (h : Inv tb ex0 F exl lim r) (t : Tag) : Inv tb ex0 F exl lim (addTag r t) := by
  rcases addTag_shape r t with e | ⟨i, e⟩ <;> rw [e]
  · exact h
  · exact h.transfer rfl rfl rfl rfl rfl rfl rfl

theorem Inv.read (h : Inv tb ex0 F exl lim r) (n : Nat) (hF : r.po + n ≤ F.length) (hx : r.po + n ≤ exl) (hl : n ≤ lim) :
    (fastRead r n).err = none ∧ (fastRead r n).buf = (F.drop r.po).take n ∧ (fastRead r n).r.po = r.po + n ∧
    Inv tb ex0 F exl lim (fastRead r n).r ∧ Keep r (fastRead r n).r := by
  obtain ⟨a, b, c⟩ := fastRead_exact h.coh n hF (by rw [h.exl]; exact hx) (by rw [h.lim]; exact hl)
  exact ⟨a, b, c, h.keep (Keep.fastRead r n) (h.coh.fastRead n), Keep.fastRead r n⟩

/-- `seekToTag` and `resetPosition` of the work loop, for a pending tag ahead and inside the file and the Exif length -/
theorem Inv.seekReset (h : Inv tb ex0 F exl lim r) (off : Nat) (hfw : r.po ≤ off) (hF : off ≤ F.length) (hx : off ≤ exl) :
    Inv tb ex0 F exl lim (resetPosition (discard r ((off : Int) - r.po)).1) ∧
    (resetPosition (discard r ((off : Int) - r.po)).1).po = off ∧
    (resetPosition (discard r ((off : Int) - r.po)).1).tags = r.tags.drop r.pos ∧
    (resetPosition (discard r ((off : Int) - r.po)).1).pos = 0 ∧
    (resetPosition (discard r ((off : Int) - r.po)).1).parsed = r.parsed := by
  have hp := (discard_exact h.coh (off - r.po) (by omega) (by rw [h.exl]; omega)).2
  rw [show ((off : Int) - r.po) = ((off - r.po : Nat) : Int) by omega]
  have k := Keep.discard r ((off - r.po : Nat) : Int)
  have i1 := h.keep k (h.coh.discard _)
  generalize (discard r ((off - r.po : Nat) : Int)).1 = r1 at hp k i1
  rw [← k.tags, ← k.pos, ← k.parsed]
  unfold resetPosition
  split
  · exact ⟨i1.transfer rfl rfl rfl rfl rfl rfl rfl, by rw [hp]; omega, rfl, rfl, rfl⟩
  · exact ⟨i1, by rw [hp]; omega, by rw [show r1.pos = 0 by omega]; rfl, by omega, rfl⟩

theorem Inv.parseQuiet (h : Inv tb ex0 F exl lim r) {t : Tag} (hq : ¬ Reads t) (h1 : parseTag tb r t = .ok r') :
    Inv tb ex0 F exl lim r' ∧ r'.po = r.po ∧ r'.pos = r.pos ∧ r'.tags = r.tags ∧ r'.parsed = r.parsed ++ [t] :=
  have hs := parseTag_quiet tb r r' t hq h1
  ⟨⟨h.coh.same hs, parseTag_quiet_exact r r' t hq h.exact h1, hs.exl.trans h.exl, (readLimit_congr hs.buffered).trans h.lim⟩,
    hs.po, hs.pos, hs.tags, parseTag_parsed h1⟩

theorem Inv.parseForward (h : Inv tb ex0 F exl lim r) {t : Tag} (hfw : r.po ≤ t.off) (hF : t.off + t.size ≤ F.length)
    (hx : t.off + t.size ≤ exl) (hl : t.size ≤ lim) (h1 : parseTag tb r t = .ok r') :
    Inv tb ex0 F exl lim r' ∧ r'.po ≤ t.off + t.size ∧ r'.pos = r.pos ∧ r'.tags = r.tags ∧ r'.parsed = r.parsed ++ [t] := by
  obtain ⟨hc1, he1, hpo1, htags, hpos, hexl, hl1⟩ := parseTag_forward tb r r' t h.coh h.exact hfw hF
    (by rw [h.exl]; exact hx) (by rw [h.lim]; exact hl) h1
  exact ⟨⟨hc1, he1, hexl.trans h.exl, hl1.trans h.lim⟩, hpo1, hpos, htags, parseTag_parsed h1⟩

end

theorem DisjS.symm {sz : Tag → Nat} {a b : Tag} (h : DisjS sz a b) : DisjS sz b a := Or.symm h

structure Fits (sz : Tag → Nat) (L : List Tag) : Prop where
  disj : L.Pairwise (DisjS sz)
  pos : ∀ x ∈ L, 0 < sz x
  cap : ∀ l : List Tag, LayS sz l → (∀ x ∈ l, x ∈ L) → l.length ≤ 83

theorem Fits.perm {sz : Tag → Nat} {L L' : List Tag} (h : Fits sz L) (p : L'.Perm L) : Fits sz L' :=
  ⟨p.symm.pairwise h.disj fun h => h.symm, fun x hx => h.pos x (p.subset hx), fun l hl hm => h.cap l hl fun x hx => p.subset (hm x hx)⟩

theorem Fits.sublist {sz : Tag → Nat} {L L' : List Tag} (h : Fits sz L) (s : L'.Sublist L) : Fits sz L' :=
  ⟨h.disj.sublist s, fun x hx => h.pos x (s.subset hx), fun l hl hm => h.cap l hl fun x hx => s.subset (hm x hx)⟩

/-- queueing one tag of a list that fits; `rest` are the tags still to come -/
theorem addTag_fits (sz : Tag → Nat) (r : R) (t : Tag) (rest : List Tag) (hl : LayS sz r.tags) (hpo : r.po ≤ t.off)
    (hf : Fits sz (r.tags ++ t :: rest)) :
    LayS sz (addTag r t).tags ∧ ((addTag r t).tags ++ rest).Perm (r.tags ++ t :: rest) := by
  have ht := hf.pos t (by simp)
  have hd : ∀ x ∈ r.tags, DisjS sz t x ∧ 0 < sz x := fun x hx =>
    ⟨((List.pairwise_append.mp hf.disj).2.2 x hx t (by simp)).symm, hf.pos x (by simp [hx])⟩
  obtain ⟨i, h, hlo, hhi⟩ := addTag_queued r t hl.sorted hpo
    (by have := hf.cap r.tags hl fun x hx => List.mem_append_left _ hx; unfold tagMaxCount; omega)
    (fun x hx => by have := hd x hx; unfold DisjS at this; omega)
  rw [h]
  exact ⟨layS_insert sz _ hl t ht hd i hlo hhi, ((perm_insert_mid r.tags i t).append_right _).trans List.perm_middle.symm⟩

theorem addTag_stream (r : R) (t : Tag) : (addTag r t).po = r.po ∧ (addTag r t).pos = r.pos := by
  rcases addTag_shape r t with e | ⟨i, e⟩ <;> rw [e] <;> exact ⟨rfl, rfl⟩

/-- **What the entries loop does in a good directory**: it leaves the stream alone, queues the out-of-line entries (the queue
becomes a permutation of the old queue followed by them, still laid out) and parses the embedded ones in order. -/
theorem entriesLoop_spec {F : Bytes} {exl lim : Nat} (tb : Tables) (ifd : Ifd) (buf : Bytes) (D : Nat) (sz : Tag → Nat) :
    ∀ (n i : Nat) (r r' : R), Inv tb ex0 F exl lim r → r.po ≤ D → LayS sz r.tags →
    Fits sz (r.tags ++ (entriesFrom ifd buf i n).filter (!·.isEmbedded)) →
    (∀ t ∈ entriesFrom ifd buf i n, (t.isEmbedded = true → ¬ Reads t) ∧ (t.isEmbedded = false → D ≤ t.off)) →
    entriesLoop tb ifd buf n i r = .ok r' →
    Inv tb ex0 F exl lim r' ∧ r'.po = r.po ∧ r'.pos = r.pos ∧ LayS sz r'.tags ∧
    r'.tags.Perm (r.tags ++ (entriesFrom ifd buf i n).filter (!·.isEmbedded)) ∧
    r'.parsed = r.parsed ++ (entriesFrom ifd buf i n).filter (·.isEmbedded) := by
  intro n
  induction n with
  | zero =>
    intro i r r' hi _ hlay _ _ h
    cases h
    exact ⟨hi, rfl, rfl, hlay, by simp [entriesFrom], by simp [entriesFrom]⟩
  | succ n ih =>
    intro i r r' hi hD hlay hfits hgood h
    -- entry i is decoded: the head of `entriesFrom ifd buf i (n + 1)`, if it is a tag
    unfold Exif.entriesLoop at h
    obtain ⟨e, hslc, h⟩ := Outcome.bind_eq_ok h
    obtain ⟨ot, hdec, h⟩ := Outcome.bind_eq_ok h
    have hent : entryAt ifd buf i = .ok ot := by unfold entryAt; rw [hslc]; exact hdec
    rw [entriesFrom, hent] at hfits hgood ⊢
    cases ot with
    | none => exact ih (i + 1) r r' hi hD hlay hfits hgood h
    | some t =>
      have hg := hgood t (by simp)
      have hgood' := fun x hx => hgood x (List.mem_append_right _ hx)
      dsimp only at h
      split at h
      · -- embedded: parsed on the spot; it gives no reason to read, so stream and queue stay as they are
        rename_i hemb
        obtain ⟨r1, h1, h⟩ := Outcome.bind_eq_ok h
        obtain ⟨i1, po1, pos1, tags1, par1⟩ := hi.parseQuiet (hg.1 hemb) h1
        simp only [List.singleton_append, List.filter_cons, hemb, Bool.not_true, Bool.false_eq_true, if_false, if_true] at hfits ⊢
        rw [← tags1] at hlay hfits ⊢
        obtain ⟨a, b, c, d, p, q⟩ := ih (i + 1) r1 r' i1 (po1 ▸ hD) hlay hfits hgood' h
        exact ⟨a, b.trans po1, c.trans pos1, d, p, by rw [q, par1, List.append_assoc]; rfl⟩
      · -- out of line: queued, and not dropped since old queue and entries to come fit; the queue stays laid out
        rename_i hemb
        have hemb' : t.isEmbedded = false := by simpa using hemb
        simp only [List.singleton_append, List.filter_cons, hemb', Bool.not_false, if_true, Bool.false_eq_true, if_false] at hfits ⊢
        obtain ⟨hl2, hp2⟩ := addTag_fits sz r t _ hlay (Nat.le_trans hD (hg.2 hemb')) hfits
        have hst := addTag_stream r t
        obtain ⟨a, b, c, d, p, q⟩ := ih (i + 1) (addTag r t) r' (hi.addTag t) (by rw [hst.1]; exact hD) hl2 (hfits.perm hp2) hgood' h
        exact ⟨a, b.trans hst.1, c.trans hst.2, d, p.trans hp2, by rw [q, (addTag_keep r t).2]⟩

section
variable {F : Bytes} {ifd : Ifd} {d cnt exl lim : Nat} {sz : Tag → Nat}

theorem stubs_pairwise (F : Bytes) (ifd : Ifd) (d cnt : Nat) (R : Tag → Tag → Prop) : (stubs F ifd d cnt).Pairwise R := by
  unfold stubs; repeat' split
  all_goals simp

/-- `DirOK`, which speaks of entries by index, in terms of the lists `embs`, `outs`, `stubs` -/
theorem DirOK.lists (hd : DirOK F ifd d cnt exl lim sz) :
    (∀ t ∈ embs F ifd d cnt, ¬ Reads t) ∧
    (∀ x ∈ outs F ifd d cnt ++ stubs F ifd d cnt, d + 2 + 12 * cnt + 4 ≤ x.off ∧ 0 < sz x) ∧
    (outs F ifd d cnt ++ stubs F ifd d cnt).Pairwise (DisjS sz) := by
  have hstub : ∀ s ∈ stubs F ifd d cnt, (d + 2 + 12 * cnt + 4 ≤ s.off ∧ 0 < sz s) ∧ ∀ x ∈ outs F ifd d cnt, DisjS sz x s := by
    intro s hs
    obtain ⟨h0, nx, hnz, hu, rfl⟩ := mem_stubs.mp hs
    obtain ⟨nx', hu', hcase⟩ := hd.next h0
    rw [hu] at hu'; cases hu'
    obtain ⟨a, b, c⟩ := hcase.resolve_left hnz
    exact ⟨⟨a, b⟩, fun x hx => by obtain ⟨k, hk, he, ho⟩ := mem_outs.mp hx; exact (c k x hk he ho).symm⟩
  have houts : (outs F ifd d cnt).Pairwise (DisjS sz) := by
    have : (entries F ifd d cnt).Pairwise (fun a b => a.isEmbedded = false → b.isEmbedded = false → DisjS sz a b) :=
      entriesFrom_pairwise cnt 0 fun k k' t t' _ hk hk' e e' => hd.disj k k' t t' (by omega) (by omega) (by omega) e e'
    exact (this.filter _).imp_of_mem fun ha hb h =>
      h (by simpa using (List.mem_filter.mp ha).2) (by simpa using (List.mem_filter.mp hb).2)
  refine ⟨fun t ht => ?_, fun x hx => ?_, List.pairwise_append.mpr ⟨houts, stubs_pairwise .., fun x hx s hs => (hstub s hs).2 x hx⟩⟩
  · obtain ⟨k, hk, he⟩ := mem_entries.mp (List.mem_filter.mp ht).1
    exact (hd.good k t hk he).1 (List.mem_filter.mp ht).2
  · rcases List.mem_append.mp hx with h | h
    · obtain ⟨k, hk, he, ho⟩ := mem_outs.mp h; exact (hd.good k x hk he).2 ho
    · exact (hstub x h).1

end

/-- **What `readIfdHeader` does at a good directory** (`DirOK`) whose out-of-line entries, and the IFD1 pointer if there is
one, fit the queue with the pending tags (`Fits`): no error; the reader stays coherent and exact and ends at or before
the end of the directory; the queue is the old queue plus the out-of-line entries plus possibly the IFD1 pointer (it is
not read when a pending tag lies ahead), still laid out; the embedded entries were parsed in order. -/
theorem readIfdHeader_spec {F : Bytes} {exl lim : Nat} (tb : Tables) (ifd : Ifd) (r r1 : R) (e1 : Option ErrKind) (cnt : Nat)
    (sz : Tag → Nat) (hi : Inv tb ex0 F exl lim r) (hlay : LayS sz r.tags) (hd : DirOK F ifd r.po cnt exl lim sz)
    (hfits : Fits sz ((r.tags ++ outs F ifd r.po cnt) ++ stubs F ifd r.po cnt))
    (h : readIfdHeader tb r ifd = .ok (r1, e1)) :
    e1 = none ∧ Inv tb ex0 F exl lim r1 ∧ r1.po ≤ r.po + 2 + 12 * cnt + 4 ∧ r1.pos = r.pos ∧ LayS sz r1.tags ∧
    (∃ st, st.Sublist (stubs F ifd r.po cnt) ∧ r1.tags.Perm ((r.tags ++ outs F ifd r.po cnt) ++ st)) ∧
    r1.parsed = r.parsed ++ embs F ifd r.po cnt := by
  have hF := hd.inFile
  have hX := hd.inExif
  obtain ⟨hquiet, hahead, _⟩ := hd.lists
  have hl4 : 4 ≤ lim := by rw [← hi.lim]; exact readLimit_ge r
  -- the reads of the count (2 bytes) and of the entries (12 · cnt bytes) are exact; the count is cnt ≤ 83, so not over 128
  obtain ⟨e2, b2, p2, i2, k2⟩ := hi.read 2 (by omega) (by omega) (by omega)
  obtain ⟨e3, b3, p3, i3, k3⟩ := i2.read (cnt * 12) (by rw [p2]; omega) (by rw [p2]; omega) (by have := hd.window; omega)
  unfold Exif.readIfdHeader at h
  dsimp only at h
  rw [e2] at h
  rw [b2, hd.count] at h
  obtain ⟨c', hch, h⟩ := Outcome.bind_eq_ok h
  cases hch
  rw [if_neg (by have := hd.small; omega), e3] at h
  obtain ⟨r3, hloop, hnx⟩ := Outcome.bind_eq_ok h
  rw [b3, p2] at hloop
  have htags : (fastRead (fastRead r 2).r (cnt * 12)).r.tags = r.tags := k3.tags.trans k2.tags
  -- the entries loop: queue = old ++ outs up to order, embedded entries parsed, the stream where the two reads left it
  obtain ⟨i4, po4, pos4, lay4, perm4, par4⟩ := entriesLoop_spec tb ifd _ (r.po + 2 + 12 * cnt + 4) sz cnt 0 _ r3 i3
    (by rw [p3, p2]; omega) (by rw [htags]; exact hlay) (by rw [htags]; exact hfits.sublist (List.sublist_append_left _ _))
    (fun t ht => ⟨fun he => hquiet t (List.mem_filter.mpr ⟨ht, he⟩),
      fun ho => (hahead t (List.mem_append_left _ (List.mem_filter.mpr ⟨ht, by simp [ho]⟩))).1⟩) hloop
  rw [htags] at perm4
  have hp4 : r3.po = r.po + 2 + 12 * cnt := by rw [po4, p3, p2]; omega
  have hpos' : r3.pos = r.pos := pos4.trans (k3.pos.trans k2.pos)
  have hpar : r3.parsed = r.parsed ++ embs F ifd r.po cnt := by rw [par4, k3.parsed, k2.parsed]; rfl
  -- readNextIfdTag reads the next-directory field only if the pending tag after the current slot does not lie ahead
  unfold Exif.readNextIfdTag at hnx
  split at hnx
  · dsimp only at hnx
    obtain ⟨e5, b5, p5, i5, k5⟩ := i4.read 4 (by rw [hp4]; omega) (by rw [hp4]; omega) hl4
    rw [e5] at hnx
    obtain ⟨nx, hu, hnx⟩ := Outcome.bind_eq_ok hnx
    rw [b5, hp4] at hu
    by_cases hno : ifd.typ = ifd0 ∧ nx ≠ 0
    · -- IFD0 with a successor: the IFD1 pointer is queued
      rw [if_pos hno] at hnx
      obtain ⟨hr1, rfl⟩ : addTag (fastRead r3 4).r (stubOf ifd nx) = r1 ∧ none = e1 := Prod.mk.inj (Outcome.ok.inj hnx)
      subst hr1
      have hst : stubs F ifd r.po cnt = [stubOf ifd nx] := by unfold stubs; rw [if_pos hno.1, hu]; exact if_neg hno.2
      rw [hst] at hfits hahead ⊢
      obtain ⟨hl6, hperm6⟩ := addTag_fits sz (fastRead r3 4).r (stubOf ifd nx) [] (by rw [k5.tags]; exact lay4)
        (by rw [p5, hp4]; exact (hahead _ (by simp)).1) (by rw [k5.tags]; exact hfits.perm (perm4.append_right _))
      have hst6 := addTag_stream (fastRead r3 4).r (stubOf ifd nx)
      rw [List.append_nil, k5.tags] at hperm6
      exact ⟨rfl, i5.addTag _, by rw [hst6.1]; omega, by rw [hst6.2, k5.pos]; exact hpos', hl6,
        ⟨_, List.Sublist.refl _, hperm6.trans (perm4.append_right _)⟩, by rw [(addTag_keep _ _).2, k5.parsed]; exact hpar⟩
    · -- no successor, or not IFD0: the field is read and nothing is queued
      rw [if_neg hno] at hnx
      cases hnx
      exact ⟨rfl, i5, by omega, by rw [k5.pos]; exact hpos', by rw [k5.tags]; exact lay4,
        ⟨[], List.nil_sublist _, by rw [k5.tags, List.append_nil]; exact perm4⟩, by rw [k5.parsed]; exact hpar⟩
  · -- that tag lies ahead: the field is not read
    cases hnx
    exact ⟨rfl, i4, by rw [hp4]; omega, hpos', lay4, ⟨[], List.nil_sublist _, by rw [List.append_nil]; exact perm4⟩, hpar⟩

/-- what a pending tag has added to the parse record by the time the work loop ends -/
def parsedOfTag (F : Bytes) (t : Tag) : List Tag :=
  if t.typ = tIfd then
    if t.ifd = ifd0 ∧ (t.id = 0x8825 ∨ t.id = 0x8769) then entries F t.childIfd t.off (ptrCount F t) else []
  else [t]

theorem parsedOfTag_value (F : Bytes) {t : Tag} (h : t.typ ≠ tIfd) : parsedOfTag F t = [t] := if_neg h
theorem parsedOfTag_ptr (F : Bytes) {t : Tag} (h : IsPtr t) : parsedOfTag F t = entries F t.childIfd t.off (ptrCount F t) := by
  unfold parsedOfTag; rw [if_pos h.1, if_pos h.2]
theorem parsedOfTag_stub (F : Bytes) {t : Tag} (h : IsStub t) : parsedOfTag F t = [] := by
  unfold parsedOfTag
  rw [if_pos h.1, if_neg]
  rw [h.2.2]; exact fun h' => absurd h'.2 (by decide)

theorem flatMap_values (F : Bytes) {l : List Tag} (h : ∀ x ∈ l, x.typ ≠ tIfd) : l.flatMap (parsedOfTag F) = l := by
  induction l with
  | nil => rfl
  | cons a l ih =>
    rw [List.flatMap_cons, parsedOfTag_value F (h a List.mem_cons_self), ih fun x hx => h x (List.mem_cons_of_mem _ hx)]; rfl

theorem lay_head (sz : Tag → Nat) (l : List Tag) (p : Tag) (hl : LayS sz l) (hp : p ∈ l)
    (hmin : ∀ x ∈ l, x = p ∨ p.off + sz p ≤ x.off) (hpos : ∀ x ∈ l, 0 < sz x) : ∃ tl, l = p :: tl := by
  cases l with
  | nil => cases hp
  | cons h tl =>
    by_cases hh : h = p
    · exact ⟨tl, by rw [hh]⟩
    · exfalso
      rw [List.mem_cons] at hp
      rcases hp with rfl | hp
      · exact hh rfl
      · unfold LayS at hl
        rw [List.pairwise_cons] at hl
        have h1 := hl.1 p hp
        rcases hmin h (by simp) with h2 | h2
        · exact hh h2
        · have := hpos h (by simp); have := hpos p (by simp [hp]); omega

/-- the invariant of the work loop in a nested forward layout, on the pending queue `r.tags.drop r.pos` -/
structure NInv (tb : Tables) (ex0 : Rec) (F : Bytes) (exl lim : Nat) (W : Tag → Prop) (r : R) : Prop where
  inv : Inv tb ex0 F exl lim r
  lay : LayS (extent F) (r.tags.drop r.pos)
  inW : ∀ x ∈ r.tags.drop r.pos, W x
  fwd : ∀ x ∈ r.tags.drop r.pos, r.po ≤ x.off
  -- `fresh`: no pending tag comes from the directory a pending pointer leads to, so what that pointer will queue differs
  -- from every pending tag (`World.disj` asks for `x ≠ y`)
  fresh : ∀ p ∈ r.tags.drop r.pos, IsPtr p → ∀ x ∈ r.tags.drop r.pos, x.ifd ≠ p.childIfd.typ

section
variable {tb : Tables} {F : Bytes} {exl lim : Nat} {W : Tag → Prop}

theorem World.fits (w : World F exl lim W) {L : List Tag} (hW : ∀ x ∈ L, W x) (hd : L.Pairwise (DisjS (extent F))) :
    Fits (extent F) L :=
  ⟨hd, fun x hx => w.extent_pos x (hW x hx), fun l hl hm => w.cap l hl fun x hx => hW x (hm x hx)⟩

theorem World.kids (w : World F exl lim W) {t : Tag} (htW : W t) (hip : IsPtr t)
    (hfd : FlatDir F t.childIfd t.off (ptrCount F t) exl lim) :
    ∀ c ∈ outs F t.childIfd t.off (ptrCount F t),
      W c ∧ IsPtr t ∧ t.off + extent F t ≤ c.off ∧ c.typ ≠ tIfd ∧ c.ifd = t.childIfd.typ := by
  intro c hc
  obtain ⟨k, hk, hce, hco⟩ := mem_outs.mp hc
  have hg := hfd.good k c hk hce
  exact ⟨w.child t htW hip c (mem_outs.mp hc), hip, by rw [extent_ptr F t hip.1]; have := (hg.2.2.2 hco).1; omega, hg.1,
    entry_ifd _ _ _ _ hce⟩

/-- one round of the work loop keeps the invariant: the head `t` is done, and `kids`, the out-of-line entries of the
directory `t` points at (none unless `t` is a pointer), have joined the tail -/
theorem NInv.next (w : World F exl lim W) {r rn : R} {t : Tag} {tl q kids : List Tag}
    (h : NInv tb ex0 F exl lim W r) (hq : r.tags.drop r.pos = t :: tl)
    (hk : ∀ c ∈ kids, W c ∧ IsPtr t ∧ t.off + extent F t ≤ c.off ∧ c.typ ≠ tIfd ∧ c.ifd = t.childIfd.typ)
    (hqn : rn.tags.drop rn.pos = q) (hperm : q.Perm (tl ++ kids)) (hlay : LayS (extent F) q)
    (hin : Inv tb ex0 F exl lim rn) (hpo : rn.po ≤ t.off + extent F t) : NInv tb ex0 F exl lim W rn := by
  have hl' := List.pairwise_cons.mp (hq ▸ h.lay)
  have hmem : ∀ {x}, x ∈ q ↔ x ∈ tl ∨ x ∈ kids := by intro x; rw [hperm.mem_iff, List.mem_append]
  have hold : ∀ {x}, x ∈ tl → x ∈ r.tags.drop r.pos := fun hx => by rw [hq]; exact List.mem_cons_of_mem _ hx
  refine ⟨hin, hqn ▸ hlay, ?_, ?_, ?_⟩ <;> rw [hqn]
  · exact fun x hx => (hmem.mp hx).elim (fun ho => h.inW x (hold ho)) fun hc => (hk x hc).1
  · exact fun x hx => Nat.le_trans hpo ((hmem.mp hx).elim (hl'.1 x) fun hc => (hk x hc).2.2.1)
  · intro p hp hip x hx
    have hpold : p ∈ tl := (hmem.mp hp).resolve_right fun hc => (hk p hc).2.2.2.1 hip.1
    rcases hmem.mp hx with ho | hc
    · exact h.fresh p (hold hpold) hip x (hold ho)
    · obtain ⟨_, hit, _, _, hifd⟩ := hk x hc
      rw [hifd]
      refine childType_ne t p hit hip fun hid => ?_
      have htW := h.inW t (by rw [hq]; simp)
      have heq := w.uniq t p htW (h.inW p (hold hpold)) hit hip hid
      have h1 := hl'.1 p hpold
      have h2 := w.extent_pos t htW
      rw [← heq] at h1
      omega

/-- **A pointer at the head of the queue**: after the seek, the reset and the read of the flat directory it leads to, the
head is still first, the out-of-line entries of the directory are queued behind it among the pending tags, its embedded
entries are parsed; with the head stepped over the invariant holds again. -/
theorem ifdChild_ptr_spec (w : World F exl lim W) {r x3 : R} {t : Tag} {tl : List Tag} (inv : NInv tb ex0 F exl lim W r)
    (hq : r.tags.drop r.pos = t :: tl) (hip : IsPtr t) (hfd : FlatDir F t.childIfd t.off (ptrCount F t) exl lim)
    (h3 : ifdChild tb (resetPosition (discard r ((t.off : Int) - r.po)).1) t = .ok x3) :
    NInv tb ex0 F exl lim W { x3 with pos := x3.pos + 1 } ∧
    (x3.parsed ++ (x3.tags.drop (x3.pos + 1)).flatMap (parsedOfTag F)).Perm
      (r.parsed ++ (parsedOfTag F t ++ tl.flatMap (parsedOfTag F))) := by
  have hlayQ := List.pairwise_cons.mp (hq ▸ inv.lay)
  have htW : W t := inv.inW t (by rw [hq]; simp)
  have hinF := hfd.inFile
  have hinX := hfd.inExif
  -- seekToTag and resetPosition: the reader stands at the directory, the queue is t :: tl from slot 0
  obtain ⟨i2, po2, tags2, pos2, par2⟩ := inv.inv.seekReset t.off (inv.fwd t (by rw [hq]; simp)) (by omega) (by omega)
  rw [hq] at tags2
  generalize resetPosition (Exif.discard r ((t.off : Int) - r.po)).1 = r2 at h3 i2 po2 tags2 pos2 par2
  -- ifdChild runs readIfdHeader on the Exif / GPS directory; that is not IFD0, so no IFD1 pointer is queued (`hst`)
  unfold Exif.ifdChild at h3
  rw [if_pos hip.2.1, if_pos hip.2.2] at h3
  obtain ⟨⟨x3', e3⟩, hh3, h3⟩ := Outcome.bind_eq_ok h3
  cases h3
  have hst : stubs F t.childIfd r2.po (ptrCount F t) = [] := if_neg (childType_ne_ifd0 t hip).symm
  have hdok : DirOK F t.childIfd r2.po (ptrCount F t) exl lim (extent F) := by
    rw [po2]; exact hfd.dirOK (extent F) (extent_value F)
  have hpw := hdok.lists.2.2
  rw [hst, List.append_nil, po2] at hpw
  have hkid := w.kids htW hip hfd
  have hOldW : ∀ x ∈ r2.tags, W x := fun x hx => inv.inW x (by rw [hq, ← tags2]; exact hx)
  -- old queue and out-of-line entries of the directory fit together: all are in W, and a pending tag is none of the entries
  -- (`fresh`), so `World.disj` keeps them apart
  obtain ⟨_, i3, po3, pos3, lay3, ⟨st, hsub, perm3⟩, par3⟩ := readIfdHeader_spec tb t.childIfd r2 x3 e3
    (ptrCount F t) (extent F) i2 (by rw [tags2, ← hq]; exact inv.lay) hdok
    (by
      rw [hst, List.append_nil, po2]
      refine w.fits (fun x hx => (List.mem_append.mp hx).elim (hOldW x) fun hc => (hkid x hc).1) (List.pairwise_append.mpr ⟨?_, hpw, ?_⟩)
      · rw [tags2, ← hq]; exact inv.lay.imp Or.inl
      · exact fun x hx c hc => w.disj x c (hOldW x hx) (hkid c hc).1 fun heq =>
          inv.fresh t (by rw [hq]; simp) hip x (by rw [hq, ← tags2]; exact hx) (by rw [heq]; exact (hkid c hc).2.2.2.2))
    hh3
  rw [hst] at hsub
  cases List.eq_nil_of_sublist_nil hsub
  rw [List.append_nil, po2, tags2] at perm3
  rw [po2] at po3 par3
  -- t is still the head of the queue: every other tag of it begins after the extent of t ends
  have hmem3 : ∀ {x}, x ∈ x3.tags ↔ x = t ∨ x ∈ tl ∨ x ∈ outs F t.childIfd t.off (ptrCount F t) := by
    intro x; rw [perm3.mem_iff, List.mem_append, List.mem_cons, or_assoc]
  obtain ⟨tl', htl⟩ := lay_head (extent F) x3.tags t lay3 (hmem3.mpr (Or.inl rfl))
    (fun x hx => (hmem3.mp hx).imp (·) fun hx => hx.elim (hlayQ.1 x) fun hx => (hkid x hx).2.2.1)
    (fun x hx => w.extent_pos x <| (hmem3.mp hx).elim (· ▸ htW) fun hx => hx.elim
      (fun hx => inv.inW x (by rw [hq]; exact List.mem_cons_of_mem _ hx)) fun hx => (hkid x hx).1)
  rw [htl] at lay3 perm3
  have permtl : tl'.Perm (tl ++ outs F t.childIfd t.off (ptrCount F t)) := perm3.cons_inv
  have hq' : x3.tags.drop (x3.pos + 1) = tl' := by rw [pos3, pos2, htl]; rfl
  refine ⟨inv.next w hq hkid hq' permtl (List.pairwise_cons.mp lay3).2 (i3.setPos _)
    (show x3.po ≤ _ by rw [extent_ptr F t hip.1]; omega), ?_⟩
  -- the parse record: `embs` of the directory are in it, its `outs` are pending value tags; together they are its `entries`
  rw [hq', par3, par2, parsedOfTag_ptr F hip, List.append_assoc]
  refine List.Perm.append_left _ ?_
  have h1 : (tl'.flatMap (parsedOfTag F)).Perm (tl.flatMap (parsedOfTag F) ++ outs F t.childIfd t.off (ptrCount F t)) := by
    have := permtl.flatMap_right (parsedOfTag F)
    rwa [List.flatMap_append, flatMap_values F fun x hx => (hkid x hx).2.2.2.1] at this
  have h2 : (embs F t.childIfd t.off (ptrCount F t) ++ outs F t.childIfd t.off (ptrCount F t)).Perm
      (entries F t.childIfd t.off (ptrCount F t)) := List.filter_append_perm _ _
  exact ((h1.append_left _).trans (List.perm_append_comm_assoc _ _ _)).trans ((h2.append_left _).trans List.perm_append_comm)

/-- **The work loop in a nested forward layout**: the reader stays coherent and exact, and the parse record ends as a
permutation of what it was followed by what every pending tag adds (`parsedOfTag`). -/
theorem ifdLoop_nested (w : World F exl lim W) (tb : Tables) :
    ∀ (f : Nat) (r r' : R), NInv tb ex0 F exl lim W r → ifdLoop tb f r = .ok r' →
      Inv tb ex0 F exl lim r' ∧ r'.parsed.Perm (r.parsed ++ (r.tags.drop r.pos).flatMap (parsedOfTag F)) := by
  intro f
  induction f with
  | zero => intro r r' _ h; cases h
  | succ f ih =>
    intro r r' inv h
    unfold Exif.ifdLoop at h
    split at h
    · rename_i hlt
      have hdrop : r.tags.drop r.pos = r.tags[r.pos] :: r.tags.drop (r.pos + 1) := List.drop_eq_getElem_cons hlt
      rw [List.getElem?_eq_getElem hlt] at h
      dsimp only at h
      generalize r.tags[r.pos] = t at h hdrop
      have hlayQ := List.pairwise_cons.mp (hdrop ▸ inv.lay)
      have htW : W t := inv.inW t (by rw [hdrop]; simp)
      have htfwd : r.po ≤ t.off := inv.fwd t (by rw [hdrop]; simp)
      rw [hdrop, List.flatMap_cons]
      -- the head t of the pending queue is one of the three kinds of tag a `World` has
      rcases w.ok t htW with hv | ⟨hip, hfd⟩ | ⟨his, hsF, hsX⟩
      · -- a value tag: its read, if the parser makes one, is forward and inside the file and the limits
        rw [if_neg hv.1, if_neg hv.2.1] at h
        obtain ⟨r1, h1, h⟩ := Outcome.bind_eq_ok h
        obtain ⟨i1, po1, pos1, tags1, par1⟩ := inv.inv.parseForward htfwd hv.2.2.2.1 hv.2.2.2.2.1 hv.2.2.2.2.2 h1
        have hq : ({ r1 with pos := r1.pos + 1 } : R).tags.drop (r1.pos + 1) = r.tags.drop (r.pos + 1) := by rw [← tags1, ← pos1]
        obtain ⟨a, b⟩ := ih _ r' (inv.next w hdrop (kids := []) nofun hq (by simp) hlayQ.2 (i1.setPos _)
          (by rw [extent_value F t hv.1]; exact po1)) h
        refine ⟨a, ?_⟩
        rw [parsedOfTag_value F hv.1, ← List.append_assoc, ← par1, ← hq]
        exact b
      · -- a pointer to a flat directory
        rw [if_pos hip.1] at h
        obtain ⟨x3, h3, h⟩ := Outcome.bind_eq_ok h
        obtain ⟨hn, hp⟩ := ifdChild_ptr_spec w inv hdrop hip hfd h3
        obtain ⟨a, b⟩ := ih _ r' hn h
        exact ⟨a, b.trans hp⟩
      · -- the IFD1 pointer queued by readNextIfdTag: the loop only seeks to it
        rw [if_pos his.1] at h
        obtain ⟨i2, po2, tags2, pos2, par2⟩ := inv.inv.seekReset t.off htfwd hsF hsX
        rw [hdrop] at tags2
        generalize resetPosition (Exif.discard r ((t.off : Int) - r.po)).1 = r2 at h i2 po2 tags2 pos2 par2
        obtain ⟨r3, h3, h⟩ := Outcome.bind_eq_ok h
        unfold Exif.ifdChild at h3
        rw [if_pos his.2.1, if_neg (by rw [his.2.2]; decide)] at h3
        cases h3
        have hq : ({ r2 with pos := r2.pos + 1 } : R).tags.drop (r2.pos + 1) = r.tags.drop (r.pos + 1) := by rw [tags2, pos2]; rfl
        obtain ⟨a, b⟩ := ih { r2 with pos := r2.pos + 1 } r' (inv.next w hdrop (kids := []) nofun hq (by simp) hlayQ.2 (i2.setPos _)
          (show r2.po ≤ _ by omega)) h
        refine ⟨a, ?_⟩
        rw [parsedOfTag_stub F his, List.nil_append, ← par2, ← hq]
        exact b
    · cases h
      rw [List.drop_eq_nil_of_le (by omega), List.flatMap_nil, List.append_nil]
      exact ⟨inv.inv, List.Perm.refl _⟩

end

/-- readIfd on a root directory whose entries are value tags or pointers to flat Exif / GPS directories, everything in
a forward layout without overlap (`World`): coherent reader, every read exact, and the parse record grows by a permutation
of the embedded entries of the root and what its out-of-line entries add -/
theorem readIfd_nested {F : Bytes} {exl lim : Nat} {W : Tag → Prop} (tb : Tables) (fuel : Nat) (ifd : Ifd) (r r' : R)
    (e : Option ErrKind) (cnt : Nat) (w : World F exl lim W) (hi : Inv tb ex0 F exl lim r) (htags : r.tags = []) (hpos : r.pos = 0)
    (hroot : DirOK F ifd r.po cnt exl lim (extent F))
    (hrootW : ∀ x, IsEntry F ifd r.po cnt x ∨ IsStubEntry F ifd r.po cnt x → W x)
    (h : readIfd tb fuel r ifd = .ok (r', e)) :
    Inv tb ex0 F exl lim r' ∧
    r'.parsed.Perm (r.parsed ++ (embs F ifd r.po cnt ++ (outs F ifd r.po cnt).flatMap (parsedOfTag F))) := by
  unfold Exif.readIfd at h
  obtain ⟨⟨r1, e1⟩, hp, h⟩ := Outcome.bind_eq_ok h
  obtain ⟨_, hahead, hpw⟩ := hroot.lists
  have hW : ∀ x ∈ outs F ifd r.po cnt ++ stubs F ifd r.po cnt, W x := fun x hx =>
    hrootW x ((List.mem_append.mp hx).imp mem_outs.mp mem_stubs.mp)
  have hifd : ∀ x ∈ outs F ifd r.po cnt ++ stubs F ifd r.po cnt, x.ifd = ifd.typ := fun x hx => by
    rcases List.mem_append.mp hx with h | h
    · obtain ⟨k, _, he, _⟩ := mem_outs.mp h; exact entry_ifd _ _ _ _ he
    · obtain ⟨h0, nx, _, _, rfl⟩ := mem_stubs.mp h; exact h0.symm
  -- readIfdHeader on the root, the queue empty: the queue becomes outs (++ the IFD1 pointer), no error
  obtain ⟨rfl, i1, po1, pos1, lay1, ⟨st, hsub, perm1⟩, par1⟩ := readIfdHeader_spec tb ifd r r1 e1 cnt (extent F) hi
    (by rw [htags]; exact List.Pairwise.nil) hroot (by rw [htags, List.nil_append]; exact w.fits hW hpw) hp
  obtain ⟨r2, h2, h⟩ := Outcome.bind_eq_ok h
  cases h
  rw [htags, List.nil_append] at perm1
  have hq : r1.tags.drop r1.pos = r1.tags := by rw [pos1, hpos]; rfl
  have hmem : ∀ x ∈ r1.tags, x ∈ outs F ifd r.po cnt ++ stubs F ifd r.po cnt := fun x hx =>
    List.mem_append.mpr ((List.mem_append.mp (perm1.subset hx)).imp id fun h => hsub.subset h)
  -- the work loop starts in `NInv`; `fresh`: every pending tag has the root's directory type, which is IFD0 if one of them
  -- is a pointer, and no child directory is IFD0
  obtain ⟨a, b⟩ := ifdLoop_nested w tb fuel r1 _ ⟨i1, by rw [hq]; exact lay1, by rw [hq]; exact fun x hx => hW x (hmem x hx),
    by rw [hq]; exact fun x hx => Nat.le_trans po1 (hahead x (hmem x hx)).1,
    by
      rw [hq]; intro p hp hip x hx
      rw [hifd x (hmem x hx), ← hifd p (hmem p hp), hip.2.1]
      exact childType_ne_ifd0 p hip⟩ h2
  refine ⟨a, ?_⟩
  -- the parse record: `embs` from readIfdHeader, then what the queue adds; the IFD1 pointer adds nothing
  rw [hq, par1] at b
  rw [← List.append_assoc]
  refine b.trans (List.Perm.append_left _ ?_)
  have := perm1.flatMap_right (parsedOfTag F)
  rwa [List.flatMap_append, show st.flatMap (parsedOfTag F) = [] from
    List.flatMap_eq_nil_iff.mpr fun s hs => parsedOfTag_stub F (by
      obtain ⟨h0, nx, _, _, rfl⟩ := mem_stubs.mp (hsub.subset hs); exact ⟨rfl, rfl, rfl⟩), List.append_nil] at this

theorem mem_parsedOfTag {F : Bytes} {t x : Tag} (h : x ∈ parsedOfTag F t) :
    (x = t ∧ t.typ ≠ tIfd) ∨ (IsPtr t ∧ AnyEntry F t.childIfd t.off (ptrCount F t) x) := by
  unfold parsedOfTag at h
  split at h
  · rename_i h1
    split at h
    · rename_i h2; exact Or.inr ⟨⟨h1, h2⟩, mem_entries.mp h⟩
    · cases h
  · rename_i h1; exact Or.inl ⟨List.mem_singleton.mp h, h1⟩

/-- what the parse record `readIfd_nested` describes contains: every out-of-line value entry of the root, and nothing that
is not an entry of the root or of a directory one of its pointers leads to -/
theorem parsed_complete {F : Bytes} {ifd : Ifd} {d cnt : Nat} {l : List Tag}
    (hp : l.Perm (embs F ifd d cnt ++ (outs F ifd d cnt).flatMap (parsedOfTag F))) :
    (∀ x, IsEntry F ifd d cnt x → x.typ ≠ tIfd → x ∈ l) ∧
    (∀ x ∈ l, AnyEntry F ifd d cnt x ∨ ∃ p, IsEntry F ifd d cnt p ∧ IsPtr p ∧ AnyEntry F p.childIfd p.off (ptrCount F p) x) := by
  refine ⟨fun x hx ht => hp.mem_iff.mpr (List.mem_append_right _ (List.mem_flatMap.mpr ⟨x, mem_outs.mpr hx, ?_⟩)), fun x hx => ?_⟩
  · rw [parsedOfTag_value F ht]; exact List.mem_singleton_self x
  · rcases List.mem_append.mp (hp.mem_iff.mp hx) with h | h
    · exact Or.inl (mem_entries.mp (List.mem_filter.mp h).1)
    · obtain ⟨p, hp', hx'⟩ := List.mem_flatMap.mp h
      rcases mem_parsedOfTag hx' with ⟨rfl, _⟩ | ⟨hip, ha⟩
      · obtain ⟨k, hk, he, _⟩ := mem_outs.mp hp'; exact Or.inl ⟨k, hk, he⟩
      · exact Or.inr ⟨p, mem_outs.mp hp', hip, ha⟩

/-- the fresh reader of an entry point, after the seek to the first directory -/
theorem start_inv (tb : Tables) (F : Bytes) (buffered : Bool) (h : Hdr) (exl : Nat) (hsmall : F.length < 2 ^ 32)
    (hF : h.firstIfd ≤ F.length) (hX : h.firstIfd ≤ exl) :
    ∃ r1, discard { rest := F, po := 0, exifLength := exl, buffered := buffered, ex := { imageType := h.imageType } } h.firstIfd = (r1, none) ∧
      Inv tb { imageType := h.imageType } F exl (if buffered then bufioSize else scratchSize) r1 ∧
      r1.po = h.firstIfd ∧ r1.tags = [] ∧ r1.pos = 0 ∧ r1.parsed = [] := by
  have i0 : Inv tb { imageType := h.imageType } F exl (if buffered then bufioSize else scratchSize)
      { rest := F, po := 0, exifLength := exl, buffered := buffered, ex := { imageType := h.imageType } } :=
    ⟨⟨by simp, Nat.zero_le _, hsmall⟩,
      Exact.init tb F { rest := F, po := 0, exifLength := exl, buffered := buffered, ex := { imageType := h.imageType } } rfl rfl, rfl, rfl⟩
  obtain ⟨a, b⟩ := discard_exact i0.coh h.firstIfd (by simp only; omega) (by simp only; omega)
  have k := Keep.discard { rest := F, po := 0, exifLength := exl, buffered := buffered, ex := { imageType := h.imageType } } (h.firstIfd : Int)
  exact ⟨_, Prod.ext rfl a, i0.keep k (i0.coh.discard _), by rw [b]; simp, k.tags, k.pos, k.parsed⟩

/-- **A TIFF with IFD0, Exif and GPS directories in a forward layout is read exactly** (DecodeTiff on the whole file F) -/
theorem decodeTiff_nested (tb : Tables) (F : Bytes) (buffered : Bool) (h : Hdr) (cnt : Nat) (r' : R) (e : Option ErrKind)
    (W : Tag → Prop) (hsmall : F.length < 2 ^ 32)
    (w : World F (4 * 1024 * 1024) (if buffered then bufioSize else scratchSize) W)
    (hroot : DirOK F { off := 0, base := 0, order := h.order, typ := h.firstIfdType, idx := 0 } h.firstIfd cnt (4 * 1024 * 1024)
      (if buffered then bufioSize else scratchSize) (extent F))
    (hrootW : ∀ x, IsEntry F { off := 0, base := 0, order := h.order, typ := h.firstIfdType, idx := 0 } h.firstIfd cnt x ∨
      IsStubEntry F { off := 0, base := 0, order := h.order, typ := h.firstIfdType, idx := 0 } h.firstIfd cnt x → W x)
    (hres : decodeTiff tb F buffered h = .ok (r', e)) : Coh F r' ∧ Exact tb { imageType := h.imageType } F r' ∧
      r'.parsed.Perm (embs F { off := 0, base := 0, order := h.order, typ := h.firstIfdType, idx := 0 } h.firstIfd cnt ++
        (outs F { off := 0, base := 0, order := h.order, typ := h.firstIfdType, idx := 0 } h.firstIfd cnt).flatMap (parsedOfTag F)) := by
  obtain ⟨r1, hd, i1, po1, t1, p1, par1⟩ := start_inv tb F buffered h (4 * 1024 * 1024) hsmall (by have := hroot.inFile; omega)
    (by have := hroot.inExif; omega)
  unfold Exif.decodeTiff at hres
  dsimp only at hres
  rw [hd] at hres
  obtain ⟨a, b⟩ := readIfd_nested tb _ _ r1 r' e cnt w i1 t1 p1 (by rw [po1]; exact hroot) (by rw [po1]; exact hrootW) hres
  rw [par1, po1] at b
  exact ⟨a.coh, a.exact, b⟩

/-- DecodeJPEGIfd (JPEG APP1 payload F, Exif length from the segment) reads exactly, likewise; the parse record is not in the statement -/
theorem decodeJPEGIfd_nested (tb : Tables) (F : Bytes) (buffered : Bool) (h : Hdr) (cnt : Nat) (r' : R) (e : Option ErrKind)
    (W : Tag → Prop) (hsmall : F.length < 2 ^ 32)
    (w : World F h.exifLength (if buffered then bufioSize else scratchSize) W)
    (hroot : DirOK F { off := 0, base := 0, order := h.order, typ := h.firstIfdType, idx := 0 } h.firstIfd cnt h.exifLength
      (if buffered then bufioSize else scratchSize) (extent F))
    (hrootW : ∀ x, IsEntry F { off := 0, base := 0, order := h.order, typ := h.firstIfdType, idx := 0 } h.firstIfd cnt x ∨
      IsStubEntry F { off := 0, base := 0, order := h.order, typ := h.firstIfdType, idx := 0 } h.firstIfd cnt x → W x)
    (hres : decodeJPEGIfd tb F buffered h = .ok (r', e)) : Coh F r' ∧ Exact tb { imageType := h.imageType } F r' := by
  obtain ⟨r1, hd, i1, po1, t1, p1, _⟩ := start_inv tb F buffered h h.exifLength hsmall (by have := hroot.inFile; omega)
    (by have := hroot.inExif; omega)
  unfold Exif.decodeJPEGIfd at hres
  dsimp only at hres
  rw [hd] at hres
  obtain ⟨⟨r2, e2⟩, h2, hres⟩ := Outcome.bind_eq_ok hres
  obtain ⟨a, _⟩ := readIfd_nested tb _ _ r1 r2 e2 cnt w i1 t1 p1 (by rw [po1]; exact hroot) (by rw [po1]; exact hrootW) h2
  split at hres <;> cases hres
  · exact ⟨a.coh, a.exact⟩
  · exact ⟨a.coh.discard _, a.exact.keep (Keep.discard r2 _)⟩

/-- DecodeIfd (CR3 CMT boxes) reads exactly, likewise, the parse record again left out: the stream starts at the first directory, F is the payload from its Tiff
header on -/
theorem decodeIfd_nested (tb : Tables) (F rest : Bytes) (buffered : Bool) (h : Hdr) (cnt : Nat) (r' : R) (e : Option ErrKind)
    (W : Tag → Prop) (hsmall : F.length < 2 ^ 32) (hrest : rest = F.drop h.firstIfd) (hfi : h.firstIfd ≤ F.length)
    (w : World F h.exifLength (if buffered then bufioSize else scratchSize) W)
    (hroot : DirOK F { off := 0, base := 0, order := h.order, typ := h.firstIfdType, idx := 0 } h.firstIfd cnt h.exifLength
      (if buffered then bufioSize else scratchSize) (extent F))
    (hrootW : ∀ x, IsEntry F { off := 0, base := 0, order := h.order, typ := h.firstIfdType, idx := 0 } h.firstIfd cnt x ∨
      IsStubEntry F { off := 0, base := 0, order := h.order, typ := h.firstIfdType, idx := 0 } h.firstIfd cnt x → W x)
    (hres : decodeIfd tb rest buffered h = .ok (r', e)) : Coh F r' ∧ Exact tb { imageType := h.imageType } F r' := by
  unfold Exif.decodeIfd at hres
  -- the model passes fuelFor rest; any fuel will do
  have i0 : Inv tb { imageType := h.imageType } F h.exifLength (if buffered then bufioSize else scratchSize)
      { rest := rest, po := h.firstIfd, exifLength := h.exifLength, buffered := buffered, ex := { imageType := h.imageType } } :=
    ⟨⟨hrest, hfi, hsmall⟩, Exact.init tb F
      { rest := rest, po := h.firstIfd, exifLength := h.exifLength, buffered := buffered, ex := { imageType := h.imageType } } rfl rfl, rfl, rfl⟩
  obtain ⟨a, _⟩ := readIfd_nested tb _ _ _ r' e cnt w i0 rfl rfl hroot hrootW hres
  exact ⟨a.coh, a.exact⟩

theorem FlatDir.world {F : Bytes} {ifd : Ifd} {d cnt exl lim : Nat} (h : FlatDir F ifd d cnt exl lim) :
    World F exl lim (IsEntry F ifd d cnt) := by
  have hval : ∀ x, IsEntry F ifd d cnt x → x.typ ≠ tIfd := fun x ⟨k, hk, he, _⟩ => (h.good k x hk he).1
  refine ⟨?_, ?_, fun p hp hip => absurd hip.1 (hval p hp), fun p _ hp _ hip => absurd hip.1 (hval p hp), ?_⟩
  · rintro x ⟨k, hk, he, ho⟩
    have g := h.good k x hk he
    exact Or.inl ⟨g.1, g.2.1, ho, (g.2.2.2 ho).2⟩
  · rintro x y ⟨k, hk, he, ho⟩ ⟨k', hk', he', ho'⟩ hne
    have hkk : k ≠ k' := by rintro rfl; rw [he] at he'; cases he'; exact hne rfl
    unfold DisjS
    rw [extent_value F x (h.good k x hk he).1, extent_value F y (h.good k' y hk' he').1]
    exact h.disj k k' x y hk hk' hkk he he' ho ho'
  · apply cap_of_list F (entries F ifd d cnt) (Nat.le_trans (entriesFrom_length ..) h.small)
    · exact fun x ⟨k, hk, he, _⟩ => mem_entries.mpr ⟨k, hk, he⟩
    · rintro x ⟨k, hk, he, ho⟩
      have g := h.good k x hk he
      rw [extent_value F x g.1]; exact size_pos_of_outofline x g.1 ho

/-- **A flat TIFF in a forward layout is read exactly** (DecodeTiff on the whole file F, first directory at h.firstIfd) -/
theorem decodeTiff_flat (tb : Tables) (F : Bytes) (buffered : Bool) (h : Hdr) (cnt : Nat) (r' : R) (e : Option ErrKind)
    (hsmall : F.length < 2 ^ 32)
    (hd : FlatDir F { off := 0, base := 0, order := h.order, typ := h.firstIfdType, idx := 0 } h.firstIfd cnt (4 * 1024 * 1024)
      (if buffered then bufioSize else scratchSize))
    (hres : decodeTiff tb F buffered h = .ok (r', e)) : Coh F r' ∧ Exact tb { imageType := h.imageType } F r' := by
  have hn := decodeTiff_nested tb F buffered h cnt r' e _ hsmall hd.world (hd.dirOK (extent F) (extent_value F)) ?_ hres
  · exact ⟨hn.1, hn.2.1⟩
  · rintro x (hx | ⟨h0, nx, hnz, hu, _⟩)
    · exact hx
    · rw [hd.next h0] at hu; cases hu; exact absurd rfl hnz

end Imeta.Exif
