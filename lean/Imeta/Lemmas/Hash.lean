/-
  Helper lemmas for C19: the order class `LinearOrder'` of the threshold theorems, the index plan of the gray conversion,
  bit assembly, Hamming distance. `LinearOrder'` asks less than its name says: `<` irreflexive and transitive, and a
  relation `le` that composes with `<` on either side; neither totality nor antisymmetry.
-/
import Imeta.Model.Hash
namespace Imeta.Hash

/-- the order laws the threshold theorems need (IEEE comparisons satisfy them as well: a NaN makes
every hypothesis false) -/
class LinearOrder' (α : Type) extends LT α where
  le : α → α → Prop
  decLt : DecidableLT α
  lt_irrefl : ∀ a : α, ¬ a < a
  lt_trans : ∀ {a b c : α}, a < b → b < c → a < c
  lt_of_lt_of_le : ∀ {a b c : α}, a < b → le b c → a < c
  lt_of_le_of_lt : ∀ {a b c : α}, le a b → b < c → a < c

instance {α} [LinearOrder' α] : DecidableLT α := LinearOrder'.decLt

instance : LinearOrder' Int where
  le := (· ≤ ·)
  decLt := inferInstance
  lt_irrefl := Int.lt_irrefl
  lt_trans := Int.lt_trans
  lt_of_lt_of_le := Int.lt_of_lt_of_le
  lt_of_le_of_lt := Int.lt_of_le_of_lt

theorem range_flatMap_rows (n s : Nat) :
    (List.range n).flatMap (fun i => (List.range s).map fun j => i * s + j) = List.range (n * s) := by
  induction n with
  | zero => simp
  | succ n ih =>
    rw [List.range_succ, List.flatMap_append, ih, Nat.succ_mul, List.range_add]
    simp

theorem flatMap_rows_get {β} (s : Nat) (f : Nat → Nat → β) (n i j : Nat) (hi : i < n) (hj : j < s) :
    ((List.range n).flatMap fun i => (List.range s).map fun j => f i j)[i * s + j]? = some (f i j) := by
  induction n with
  | zero => omega
  | succ n ih =>
    rw [List.range_succ, List.flatMap_append]
    have hlen : ((List.range n).flatMap fun i => (List.range s).map fun j => f i j).length = n * s := by
      simp [List.length_flatMap, List.map_const', List.sum_replicate_nat]
    by_cases h : i < n
    · have hlt : i * s + j < n * s := by
        have : (i + 1) * s ≤ n * s := Nat.mul_le_mul_right s h
        rw [Nat.succ_mul] at this; omega
      rw [List.getElem?_append_left (by rw [hlen]; exact hlt)]
      exact ih h
    · have hin : i = n := by omega
      subst hin
      rw [List.getElem?_append_right (by rw [hlen]; omega), hlen]
      simp [hj]

section
variable {α : Type} [LT α] [DecidableLT α]

theorem hashBitsLoop_aux (T : α) (n : Nat) (c : List α) (off acc : Nat) (hn : off + c.length = n) :
    (c.zipIdx off).foldl (fun acc (p : α × Nat) => if T < p.1 then acc ||| (1 <<< (n - p.2 - 1)) else acc) acc
      = acc ||| hashBits T c := by
  induction c generalizing off acc with
  | nil => simp [hashBits]
  | cons x t ih =>
    simp only [List.zipIdx_cons, List.foldl_cons, hashBits]
    have hlen : n - off - 1 = t.length := by simp only [List.length_cons] at hn; omega
    rw [ih (off + 1) _ (by simp only [List.length_cons] at hn; omega), hlen]
    split
    · rw [Nat.or_assoc]
    · simp

end

theorem popcount64_le (x : Nat) : popcount64 x ≤ 64 := by
  unfold popcount64
  have := List.countP_le_length (p := fun i => x.testBit i) (l := List.range 64)
  simpa using this

theorem distance64_eq (a b : Nat) : distance64 a b = popcount64 (a ^^^ b) := by
  exact Nat.mod_eq_of_lt (Nat.lt_of_le_of_lt (popcount64_le _) (by decide))

theorem countP_triangle {β} (p q r : β → Bool) (l : List β)
    (h : ∀ x, (p x = true) → (q x = true ∨ r x = true)) :
    l.countP p ≤ l.countP q + l.countP r := by
  induction l with
  | nil => simp
  | cons x t ih =>
    have := h x
    cases hp : p x <;> cases hq : q x <;> cases hr : r x <;> simp_all <;> omega

theorem popcount_triangle (a b c : Nat) :
    popcount64 (a ^^^ c) ≤ popcount64 (a ^^^ b) + popcount64 (b ^^^ c) := by
  apply countP_triangle
  intro i
  simp only [Nat.testBit_xor]
  cases a.testBit i <;> cases b.testBit i <;> cases c.testBit i <;> simp

theorem distance256_self (a : List Nat) : distance256 a a = 0 := by
  unfold distance256
  induction a with
  | nil => rfl
  | cons x t ih => simp [popcount64] at *; exact ih

theorem distance256_comm (a b : List Nat) : distance256 a b = distance256 b a := by
  unfold distance256
  induction a generalizing b with
  | nil => cases b <;> simp
  | cons x t ih =>
    cases b with
    | nil => simp
    | cons y u => simp only [List.zip_cons_cons, List.map_cons, List.sum_cons, Nat.xor_comm x y, ih u]

theorem distance256_triangle (a b c : List Nat) (hab : a.length = b.length) (hbc : b.length = c.length) :
    distance256 a c ≤ distance256 a b + distance256 b c := by
  unfold distance256
  induction a generalizing b c with
  | nil => simp
  | cons x t ih =>
    cases b with
    | nil => simp at hab
    | cons y u =>
      cases c with
      | nil => simp at hbc
      | cons z v =>
        simp only [List.zip_cons_cons, List.map_cons, List.sum_cons]
        have h1 := popcount_triangle x y z
        have h2 := ih u v (by simpa using hab) (by simpa using hbc)
        omega

end Imeta.Hash
