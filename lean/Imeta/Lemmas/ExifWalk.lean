/-
  The directory walk (readIfdHeader, readNextIfdTag, readSubIfds, readMakerNotes, the work loop of readIfd, the entry
  points), walked once: every function below `ifdLoop` returns (`Ret`), and in the reader it returns every tag it queued
  is paid for by four bytes of input (`Pay`): W r = 4·|pending tags| + |unread bytes| never grows.  Each round of `ifdLoop`
  moves the cursor of the tag buffer forward (`pos`, not the stream position `po`), so the potential `M r` = W r − 4·pos
  falls by 4 per round and `ifdLoop` returns when its fuel is above it; the fuel the entry points pass is, so they always
  return.  No panic (C01) and no exhausted fuel (C02) are read off.
-/
import Imeta.Lemmas.ExifValue
namespace Imeta.Exif
open Imeta

structure Pay (k : Int) (r r' : R) : Prop where
  pos : r'.pos = r.pos
  mono : r.tags.length ≤ r'.tags.length
  w : (4 * r'.tags.length + r'.rest.length : Int) ≤ 4 * r.tags.length + r.rest.length + k

theorem Pay.refl (r : R) : Pay 0 r r := ⟨rfl, Nat.le_refl _, by omega⟩
theorem Pay.trans {a b c : R} {k l : Int} (h1 : Pay k a b) (h2 : Pay l b c) : Pay (k + l) a c :=
  ⟨h2.pos.trans h1.pos, Nat.le_trans h1.mono h2.mono, by have := h1.w; have := h2.w; omega⟩
theorem Pay.weaken {a b : R} {k l : Int} (h : Pay k a b) (hl : k ≤ l) : Pay l a b :=
  ⟨h.pos, h.mono, by have := h.w; omega⟩
theorem Fr.pay {r r' : R} (h : Fr r r') : Pay 0 r r' :=
  ⟨h.pos, by rw [h.tags]; exact Nat.le_refl _, by have := h.len; rw [h.tags]; omega⟩

theorem Pay.addTag (r : R) (t : Tag) : Pay 4 r (addTag r t) := by
  rcases addTag_shape r t with h | ⟨i, h⟩ <;> rw [h]
  · exact (Pay.refl r).weaken (by omega)
  · have := (perm_insert_mid r.tags i t).length_eq
    simp only [List.length_cons] at this
    exact ⟨rfl, by dsimp only; omega, by dsimp only; omega⟩

theorem fastRead_ok (r : R) (n : Nat) (h : (fastRead r n).err = none) :
    Pay (-(n : Int)) r (fastRead r n).r ∧ (fastRead r n).buf.length = n := by
  rcases fastRead_cases r n with ⟨_, hn, hb, e⟩ | ⟨he, _⟩
  · rw [hb, e]; exact ⟨⟨rfl, Nat.le_refl _, by simp [R.adv]; omega⟩, by simp; omega⟩
  · exact absurd h he

theorem fastRead_pay (r : R) (n : Nat) : Pay 0 r (fastRead r n).r := (Fr.fastRead r n).pay

theorem readTagValue0_ok (r : R) (t : Tag) (h : (readTagValue0 r t).err = none) :
    Pay (-((readTagValue0 r t).buf.length : Int)) r (readTagValue0 r t).r := by
  obtain ⟨r1, h1, ⟨he, _⟩ | e⟩ := readTagValue0_cases r t
  · exact absurd h he
  · rw [e] at h ⊢
    have := fastRead_ok r1 t.size h
    rw [this.2]
    exact ((Fr.of_adv h1).pay.trans this.1).weaken (by omega)

theorem readTagValue_ok (r : R) (t : Tag) (h : (readTagValue r t).err = none) :
    Pay (-((readTagValue r t).buf.length : Int)) r (readTagValue r t).r := by
  rw [readTagValue_err] at h
  have := readTagValue0_ok r t h
  rw [readTagValue_buf, readTagValue_r]; exact ⟨this.pos, this.mono, this.w⟩

theorem parseTag_ret (tb : Tables) (r : R) (t : Tag) : Ret (parseTag tb r t) (Pay 0 r) := by
  obtain ⟨r0, hp, _, _, hE⟩ := parseTag_shape tb r t
  have := hE.fr.pay
  exact ⟨_, hp, this.pos, this.mono, this.w⟩

theorem entriesLoop_ret (tb : Tables) (ifd : Ifd) (buf : Bytes) (n i : Nat) (r : R) (h : (i + n) * 12 ≤ buf.length) :
    Ret (entriesLoop tb ifd buf n i r) (Pay (4 * n) r) := by
  induction n generalizing i r with
  | zero => exact Ret.ok ((Pay.refl r).weaken (by omega))
  | succ k ih =>
    have hs : i * 12 ≤ buf.length := by omega
    have hl : 12 ≤ ((buf.drop (i * 12)).take (buf.length - i * 12)).length := by
      simp only [List.length_take, List.length_drop]; omega
    obtain ⟨ot, hot⟩ := tagFromBuffer_ok ifd _ hl
    have hnext : (i + 1 + k) * 12 ≤ buf.length := by omega
    unfold entriesLoop
    simp only [bind, Outcome.bind, slc_ok buf (i * 12) buf.length hs (Nat.le_refl _), hot]
    cases ot with
    | none => exact (ih (i + 1) r hnext).mono fun _ p => p.weaken (by omega)
    | some t =>
      dsimp only
      split
      · exact (parseTag_ret tb r t).bind fun r1 p1 => (ih (i + 1) r1 hnext).mono fun _ p => (p1.trans p).weaken (by omega)
      · exact (ih (i + 1) _ hnext).mono fun _ p => ((Pay.addTag r t).trans p).weaken (by omega)

theorem readNextIfdTag_ret (r : R) (ifd : Ifd) : Ret (readNextIfdTag r ifd) fun p => Pay 0 r p.1 := by
  unfold readNextIfdTag
  split
  · dsimp only
    cases he : (fastRead r 4).err with
    | some e => exact Ret.ok (fastRead_pay r 4)
    | none =>
      obtain ⟨hp, hl⟩ := fastRead_ok r 4 he
      simp only [bind, Outcome.bind, u32_ok _ _ (by omega : 4 ≤ (fastRead r 4).buf.length)]
      split
      · exact Ret.ok ((hp.trans (Pay.addTag _ _)).weaken (by omega))
      · exact Ret.ok (hp.weaken (by omega))
  · exact Ret.ok (Pay.refl r)

theorem readIfdHeader_ret (tb : Tables) (r : R) (ifd : Ifd) : Ret (readIfdHeader tb r ifd) fun p => Pay 0 r p.1 := by
  unfold readIfdHeader
  dsimp only
  cases he : (fastRead r 2).err with
  | some e => exact Ret.ok (fastRead_pay r 2)
  | none =>
    obtain ⟨hp, hl⟩ := fastRead_ok r 2 he
    simp only [bind, Outcome.bind, u16_ok _ _ (by omega : 2 ≤ (fastRead r 2).buf.length)]
    split
    · exact Ret.ok (hp.weaken (by omega))
    · cases he2 : (fastRead (fastRead r 2).r (ifd.order.uint (List.take 2 (fastRead r 2).buf) * 12)).err with
      | some e => exact Ret.ok ((hp.trans (fastRead_pay _ _)).weaken (by omega))
      | none =>
        obtain ⟨hp2, hl2⟩ := fastRead_ok _ _ he2
        refine (entriesLoop_ret tb ifd _ _ 0 _ (by rw [hl2]; omega)).bind fun r3 p3 => ?_
        exact (readNextIfdTag_ret r3 ifd).mono fun _ p4 => (((hp.trans hp2).trans p3).trans p4).weaken (by push_cast; omega)

theorem subIfdsLoop_ret (t : Tag) (buf : Bytes) (n i : Nat) (r : R) (hi : 4 * i ≤ buf.length) :
    Ret (subIfdsLoop t buf n i r) (Pay ((buf.length : Int) - 4 * i) r) := by
  induction n generalizing i r with
  | zero => exact Ret.ok ((Pay.refl r).weaken (by omega))
  | succ k ih =>
    unfold subIfdsLoop
    split
    · rename_i hc
      simp only [bind, Outcome.bind, slc_ok buf (4 * i) buf.length (by omega) (Nat.le_refl _)]
      rw [u32_ok _ _ (by simp only [List.length_take, List.length_drop]; omega)]
      exact (ih (i + 1) _ (by omega)).mono fun _ p => ((Pay.addTag r _).trans p).weaken (by push_cast; omega)
    · exact Ret.ok ((Pay.refl r).weaken (by omega))

theorem readSubIfds_ret (r : R) (t : Tag) : Ret (readSubIfds r t) (Pay 0 r) := by
  unfold readSubIfds
  split
  · dsimp only
    cases he : (readTagValue r t).err with
    | some e => exact Ret.ok (Fr.readTagValue r t).pay
    | none =>
      have h1 := readTagValue_ok r t he
      exact (subIfdsLoop_ret _ _ _ 0 _ (by omega)).mono fun _ p => (h1.trans p).weaken (by omega)
  · exact Ret.ok (Pay.refl r)

theorem readMakerNotes_ret (tb : Tables) (r : R) (t : Tag) : Ret (readMakerNotes tb r t) (Pay 0 r) := by
  unfold readMakerNotes
  refine .ite (fun _ => (readIfdHeader_ret tb r _).bind fun p hp => .ok hp) fun _ =>
    .ite (fun _ => .ite (fun _ => ?_) fun _ => .ok (Pay.refl r)) fun _ => .ok (Pay.refl r)
  have h1 := fastRead_pay r 18
  refine .ite (fun _ => .ok h1) fun he => ?_
  have hl := (fastRead_ok r 18 (by simpa using he)).2
  refine .bind (P := fun _ => True) ⟨_, slc_ok _ 0 5 (by omega) (by omega), trivial⟩ fun h _ => .ite (fun _ => ?_) fun _ => .ok h1
  refine .bind (P := fun _ => True) ⟨_, slc_ok _ 10 14 (by omega) (by omega), trivial⟩ fun bo _ =>
    .ite (fun _ => ?_) fun _ => .ok ⟨h1.pos, h1.mono, h1.w⟩
  refine .bind (P := fun o => 4 ≤ o.length)
    ⟨_, slc_ok _ 14 18 (by omega) (by omega), by simp only [List.length_take, List.length_drop]; omega⟩ fun o ho => ?_
  refine .bind (P := fun _ => True) ⟨_, u32_ok _ o ho, trivial⟩ fun v _ => ?_
  exact (readIfdHeader_ret tb _ _).bind fun p hp => .ok ((h1.trans ⟨hp.pos, hp.mono, hp.w⟩).weaken (by omega))

theorem ifdChild_ret (tb : Tables) (r : R) (t : Tag) : Ret (ifdChild tb r t) (Pay 0 r) := by
  have hdr : ∀ ifd, Ret (readIfdHeader tb r ifd >>= fun p => Outcome.ok p.1) (Pay 0 r) :=
    fun ifd => (readIfdHeader_ret tb r ifd).bind fun _ hp => Ret.ok hp
  unfold ifdChild
  exact .ite (fun _ => .ite (fun _ => hdr _) fun _ => .ok (Pay.refl r)) fun _ =>
    .ite (fun _ => hdr _) fun _ => .ite (fun _ => .ite (fun _ => readMakerNotes_ret tb r t) fun _ => .ok (Pay.refl r)) fun _ => .ok (Pay.refl r)

theorem Pay.parseTag {tb : Tables} {r r' : R} {t : Tag} (h : parseTag tb r t = .ok r') : Pay 0 r r' :=
  (parseTag_ret tb r t).post h

theorem NF.readNextIfdTag (r : R) (ifd : Ifd) : NF (readNextIfdTag r ifd) := ⟨(readNextIfdTag_ret r ifd).ne_fuel⟩
theorem NF.readIfdHeader (tb : Tables) (r : R) (ifd : Ifd) : NF (readIfdHeader tb r ifd) := ⟨(readIfdHeader_ret tb r ifd).ne_fuel⟩
theorem NF.readSubIfds (r : R) (t : Tag) : NF (readSubIfds r t) := ⟨(readSubIfds_ret r t).ne_fuel⟩
theorem NF.readMakerNotes (tb : Tables) (r : R) (t : Tag) : NF (readMakerNotes tb r t) := ⟨(readMakerNotes_ret tb r t).ne_fuel⟩

theorem Pay.readNextIfdTag (r r' : R) (ifd : Ifd) (e : Option ErrKind) (h : readNextIfdTag r ifd = .ok (r', e)) :
    Pay 0 r r' := (readNextIfdTag_ret r ifd).post h
theorem Pay.readIfdHeader (tb : Tables) (r r' : R) (ifd : Ifd) (e : Option ErrKind)
    (h : readIfdHeader tb r ifd = .ok (r', e)) : Pay 0 r r' := (readIfdHeader_ret tb r ifd).post h
theorem Pay.readSubIfds (r r' : R) (t : Tag) (h : readSubIfds r t = .ok r') : Pay 0 r r' := (readSubIfds_ret r t).post h
theorem Pay.readMakerNotes (tb : Tables) (r r' : R) (t : Tag) (h : readMakerNotes tb r t = .ok r') : Pay 0 r r' :=
  (readMakerNotes_ret tb r t).post h

def M (r : R) : Int := 4 * r.tags.length + r.rest.length - 4 * r.pos

theorem step_ok (r rn : R) (h : Pay 0 r rn) (hlt : r.pos < r.tags.length) :
    ({ rn with pos := rn.pos + 1 } : R).pos ≤ ({ rn with pos := rn.pos + 1 } : R).tags.length ∧
    M { rn with pos := rn.pos + 1 } + 4 ≤ M r := by
  have := h.pos; have := h.mono; have := h.w
  unfold M
  refine ⟨?_, ?_⟩ <;> simp only <;> omega

theorem reset_ok (r : R) (hlt : r.pos < r.tags.length) :
    (resetPosition r).pos < (resetPosition r).tags.length ∧ M (resetPosition r) = M r := by
  unfold Exif.resetPosition M
  split
  · simp only [List.length_drop]; omega
  · exact ⟨hlt, rfl⟩

theorem ifdLoop_ret (tb : Tables) (f : Nat) (r : R) (hinv : r.pos ≤ r.tags.length) (hf : M r < f) :
    Ret (ifdLoop tb f r) fun _ => True := by
  induction f generalizing r with
  | zero =>
    -- the potential is not negative, because the cursor is not beyond the queue (`hinv`): it is not below fuel 0
    unfold M at hf; omega
  | succ f ih =>
    unfold ifdLoop
    refine .ite (fun hlt => ?_) fun _ => .ok trivial
    -- whatever the round does with the tag is `Pay 0`; the step to the next slot keeps `hinv` and lowers M by 4 (`step_ok`)
    rw [List.getElem?_eq_getElem hlt]
    generalize r.tags[r.pos] = t
    refine .ite (fun _ => ?_) fun _ => .ite (fun _ => ?_) fun _ => ?_
    · -- a directory pointer: seek, reset, read the child directory
      split
      rename_i r1 e hd
      have h1 : Fr r r1 := by have := Fr.discard r ((t.off : Int) - r.po); rw [hd] at this; exact this
      have hr := reset_ok r1 (by rw [h1.pos, h1.tags]; exact hlt)
      refine (ifdChild_ret tb _ t).bind fun r3 hp => ?_
      have hs := step_ok _ _ hp hr.1
      have hm1 : M r1 ≤ M r := by unfold M; have := h1.len; rw [h1.pos, h1.tags]; omega
      exact ih _ hs.1 (by have := hs.2; rw [hr.2] at this; omega)
    · refine (readSubIfds_ret r t).bind fun r1 hp => ?_
      have hs := step_ok _ _ hp hlt
      exact ih _ hs.1 (by have := hs.2; omega)
    · refine (parseTag_ret tb r t).bind fun r1 hp => ?_
      have hs := step_ok _ _ hp hlt
      exact ih _ hs.1 (by have := hs.2; omega)

theorem readIfd_ret (tb : Tables) (fuel : Nat) (r : R) (ifd : Ifd) (hinv : r.pos ≤ r.tags.length) (hf : M r < fuel) :
    Ret (readIfd tb fuel r ifd) fun _ => True := by
  unfold readIfd
  refine (readIfdHeader_ret tb r ifd).bind fun p h1 => ?_
  obtain ⟨r1, e⟩ := p
  dsimp only
  split
  · exact Ret.ok trivial
  · refine (ifdLoop_ret tb fuel r1 (by rw [h1.pos]; exact Nat.le_trans hinv h1.mono) ?_).bind fun _ _ => Ret.ok trivial
    have := h1.w; have := h1.pos; unfold M at hf ⊢; dsimp only at *; omega

theorem fresh_fuel (rest : Bytes) (r : R) (hr : r.rest = rest) (ht : r.tags = []) (hp : r.pos = 0) (r1 : R) (h : Fr r r1) :
    r1.pos ≤ r1.tags.length ∧ M r1 < fuelFor rest := by
  have := h.len
  unfold M fuelFor
  rw [h.pos, h.tags, hp, ht, hr] at *
  simp only [List.length_nil]
  omega

/-- **The entry points of the model always return**: `Ret` rules out panic, exhausted fuel and the `.err` outcome; an error
that DecodeTiff returns in Go is the `Option ErrKind` inside the `.ok` value. -/
theorem decodeTiff_ret (tb : Tables) (rest : Bytes) (buffered : Bool) (h : Hdr) : Ret (decodeTiff tb rest buffered h) fun _ => True := by
  unfold decodeTiff
  dsimp only
  split
  · exact .ok trivial
  · rename_i r1 hd
    have hfr := Fr.discard { rest := rest, po := 0, exifLength := 4 * 1024 * 1024, buffered := buffered, ex := { imageType := h.imageType } } h.firstIfd
    rw [hd] at hfr
    have := fresh_fuel rest _ rfl rfl rfl r1 hfr
    exact readIfd_ret tb _ r1 _ this.1 this.2

theorem decodeJPEGIfd_ret (tb : Tables) (rest : Bytes) (buffered : Bool) (h : Hdr) : Ret (decodeJPEGIfd tb rest buffered h) fun _ => True := by
  unfold decodeJPEGIfd
  have hfr := Fr.discard { rest := rest, po := 0, exifLength := h.exifLength, buffered := buffered, ex := { imageType := h.imageType } } h.firstIfd
  have := fresh_fuel rest _ rfl rfl rfl _ hfr
  refine (readIfd_ret tb (fuelFor rest) _ { off := 0, base := 0, order := h.order, typ := h.firstIfdType, idx := 0 } this.1 this.2).bind
    fun p _ => ?_
  obtain ⟨r2, e⟩ := p
  cases e <;> exact .ok trivial

theorem decodeIfd_ret (tb : Tables) (rest : Bytes) (buffered : Bool) (h : Hdr) : Ret (decodeIfd tb rest buffered h) fun _ => True := by
  unfold decodeIfd
  have := fresh_fuel rest { rest := rest, po := h.firstIfd, exifLength := h.exifLength, buffered := buffered, ex := { imageType := h.imageType } } rfl rfl rfl _ (Fr.refl _)
  exact readIfd_ret tb _ _ _ this.1 this.2

/-- exif2.Parse: the header search (which neither panics nor runs out of fuel, Props/C12), then DecodeTiff -/
theorem parse_ret (tb : Tables) (b : Bytes)
    (hs : (Tiff.scan (b.length + 1) b 0).isPanic = false ∧ (Tiff.scan (b.length + 1) b 0).isFuel = false) :
    Ret (parse tb b) fun _ => True := by
  unfold parse
  split
  · exact (decodeTiff_ret tb (b.drop _) false _).bind fun _ _ => .ok trivial
  · exact .ok trivial
  · rename_i hq; simp [hq, Outcome.isPanic] at hs
  · rename_i hq; simp [hq, Outcome.isFuel] at hs

end Imeta.Exif
