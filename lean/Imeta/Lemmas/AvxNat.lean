/-
  Naturality of the polymorphic AVX interpreter and of the portable-kernel model: evaluating the symbolic result under
  an assignment of the inputs gives the result of running the same program in the target arithmetic.
-/
import Imeta.Model.AvxSem
namespace Imeta.AvxSem

variable {α : Type} [Alg α]

def eval (env : Nat → α) : Expr → α
  | .inp k => env k
  | .cst b => Alg.lit b
  | .zero => Alg.zero
  | .add a b => Alg.add (eval env a) (eval env b)
  | .sub a b => Alg.sub (eval env a) (eval env b)
  | .div a b => Alg.div (eval env a) (eval env b)

def evalL (env : Nat → α) : Lane Expr → Lane α
  | .v e => .v (eval env e)
  | .i n => .i n

def evalS (env : Nat → α) (s : S Expr) : S α :=
  { regs := s.regs.map (·.map (evalL env)), ax := s.ax.map (evalL env), sp := s.sp.map (evalL env), cx := evalL env s.cx }

variable (env : Nat → α)

@[simp] theorem eval_add (a b : Expr) : eval env (Alg.add a b : Expr) = Alg.add (eval env a) (eval env b) := rfl
@[simp] theorem eval_sub (a b : Expr) : eval env (Alg.sub a b : Expr) = Alg.sub (eval env a) (eval env b) := rfl
@[simp] theorem eval_div (a b : Expr) : eval env (Alg.div a b : Expr) = Alg.div (eval env a) (eval env b) := rfl
@[simp] theorem eval_lit (b : Nat) : eval env (Alg.lit b : Expr) = (Alg.lit b : α) := rfl
@[simp] theorem eval_zero' : eval env (Alg.zero : Expr) = (Alg.zero : α) := rfl
@[simp] theorem evalL_z : evalL env (z : Lane Expr) = (z : Lane α) := rfl
@[simp] theorem map_zero4 : (zero4 : List (Lane Expr)).map (evalL env) = (zero4 : List (Lane α)) := rfl
@[simp] theorem map_zero8 : (zero8 : List (Lane Expr)).map (evalL env) = (zero8 : List (Lane α)) := rfl

@[simp] theorem getReg_evalS (s : S Expr) (n : Nat) : getReg (evalS env s) n = (getReg s n).map (evalL env) := by
  unfold getReg evalS
  simp only [List.getD_eq_getElem?_getD, List.getElem?_map]
  cases s.regs[n]? <;> simp

@[simp] theorem nth_map (l : List (Lane Expr)) (k : Nat) : nth (l.map (evalL env)) k = evalL env (nth l k) := by
  unfold nth
  simp only [List.getD_eq_getElem?_getD, List.getElem?_map]
  cases l[k]? <;> simp

theorem setReg_evalS (s : S Expr) (n : Nat) (l : List (Lane Expr)) :
    setReg (evalS env s) n (l.map (evalL env)) = evalS env (setReg s n l) := by
  unfold setReg evalS
  simp [List.map_set]

@[simp] theorem lo_map (l : List (Lane Expr)) : lo (l.map (evalL env)) = (lo l).map (evalL env) := by unfold lo; simp [List.map_take]
@[simp] theorem hi_map (l : List (Lane Expr)) : hi (l.map (evalL env)) = (hi l).map (evalL env) := by unfold hi; simp [List.map_drop]

theorem lift2_natural (f : Expr → Expr → Expr) (g : α → α → α) (h : ∀ a b, eval env (f a b) = g (eval env a) (eval env b))
    (x y : Lane Expr) : evalL env (lift2 f x y) = lift2 g (evalL env x) (evalL env y) := by
  cases x <;> cases y <;> simp [lift2, evalL, h]

theorem zipWith_lift2 (f : Expr → Expr → Expr) (g : α → α → α)
    (h : ∀ x y, evalL env (lift2 f x y) = lift2 g (evalL env x) (evalL env y)) (a b : List (Lane Expr)) :
    List.zipWith (lift2 g) (a.map (evalL env)) (b.map (evalL env)) = (List.zipWith (lift2 f) a b).map (evalL env) := by
  induction a generalizing b with
  | nil => simp
  | cons x t ih =>
    cases b with
    | nil => simp
    | cons y u => simp [ih, h]

theorem writeLanes_map (m l : List (Lane Expr)) (k : Nat) :
    writeLanes (m.map (evalL env)) k (l.map (evalL env)) = (writeLanes m k l).map (evalL env) := by
  unfold writeLanes
  simp [List.map_take, List.map_drop]

theorem src_evalS (table : String → List Nat × Nat) (s : S Expr) (a : Arg) (n : Nat) :
    src table (evalS env s) a n = (src table s a n).map (·.map (evalL env)) := by
  unfold src
  split
  · simp [List.map_take]
  · simp only [evalS, List.length_map]
    split <;> simp [List.map_take, List.map_drop]
  · simp only [evalS, List.length_map]
    split <;> simp [List.map_take, List.map_drop]
  · simp only []
    split
    · split <;> simp [Function.comp_def, evalL]
    · split <;> simp [Function.comp_def, evalL]
  · rfl

theorem store_evalS (s : S Expr) (a : Arg) (l : List (Lane Expr)) :
    store (evalS env s) a (l.map (evalL env)) = (store s a l).map (evalS env) := by
  unfold store
  split
  · simp only [evalS, List.length_map]
    split
    · simp [writeLanes_map, evalS]
    · rfl
  · simp only [evalS, List.length_map]
    split
    · simp [writeLanes_map, evalS]
    · rfl
  · rfl

theorem vex_map (l : List (Lane Expr)) : vex (l.map (evalL env)) = (vex l).map (evalL env) := by
  unfold vex; simp only [List.length_map]; split <;> simp

theorem shuf4_map (v : Nat) (l : List (Lane Expr)) : shuf4 v (l.map (evalL env)) = (shuf4 v l).map (evalL env) := by
  unfold shuf4; simp

theorem perHalf_map (w : Nat) (f : List (Lane Expr) → List (Lane Expr) → List (Lane Expr)) (g : List (Lane α) → List (Lane α) → List (Lane α))
    (h : ∀ a b, g (a.map (evalL env)) (b.map (evalL env)) = (f a b).map (evalL env)) (a b : List (Lane Expr)) :
    perHalf w g (a.map (evalL env)) (b.map (evalL env)) = (perHalf w f a b).map (evalL env) := by
  unfold perHalf; split <;> simp [h]

theorem evalS_regs_map (s : S Expr) (f : List (Lane Expr) → List (Lane Expr)) (g : List (Lane α) → List (Lane α))
    (h : ∀ r, g (r.map (evalL env)) = (f r).map (evalL env)) :
    { evalS env s with regs := (evalS env s).regs.map g } = evalS env { s with regs := s.regs.map f } := by
  unfold evalS
  simp [List.map_map, Function.comp_def, h]

theorem setReg_app (s : S Expr) (d : Nat) (a b : List (Lane Expr)) :
    setReg (evalS env s) d (a.map (evalL env) ++ b.map (evalL env)) = evalS env (setReg s d (a ++ b)) := by
  rw [← List.map_append]; exact setReg_evalS env s d _

theorem bind_natural {β β' γ γ' : Type} (o : Option β) (m : β → β') (f : β → Option γ) (g : β' → Option γ') (n : γ → γ')
    (h : ∀ x, g (m x) = (f x).map n) : (o.map m >>= g) = (o >>= f).map n := by
  cases o with
  | none => rfl
  | some x => exact h x

theorem bin3_natural (table : String → List Nat × Nat) (f : Expr → Expr → Expr) (g : α → α → α)
    (h : ∀ a b, eval env (f a b) = g (eval env a) (eval env b)) (n : Nat) (s : S Expr) (a : Arg) (b d : Nat) :
    bin3 table g n (evalS env s) a b d = (bin3 table f n s a b d).map (evalS env) := by
  unfold bin3
  simp only [src_evalS, getReg_evalS, ← List.map_take]
  refine bind_natural _ _ _ _ _ fun x => ?_
  rw [zipWith_lift2 env f g (lift2_natural env f g h), vex_map, setReg_evalS]
  rfl

theorem bin2_natural (table : String → List Nat × Nat) (f : Expr → Expr → Expr) (g : α → α → α)
    (h : ∀ a b, eval env (f a b) = g (eval env a) (eval env b)) (s : S Expr) (a : Arg) (d : Nat) :
    bin2 table g (evalS env s) a d = (bin2 table f s a d).map (evalS env) := by
  unfold bin2
  simp only [src_evalS, getReg_evalS, ← List.map_take, hi_map]
  refine bind_natural _ _ _ _ _ fun x => ?_
  rw [zipWith_lift2 env f g (lift2_natural env f g h), setReg_app]
  rfl

theorem unpck_natural (table : String → List Nat × Nat) (high : Bool) (n : Nat) (s : S Expr) (a : Arg) (b d : Nat) :
    unpck table high n (evalS env s) a b d = (unpck table high n s a b d).map (evalS env) := by
  unfold unpck
  simp only [src_evalS, getReg_evalS, ← List.map_take]
  refine bind_natural _ _ _ _ _ fun x => ?_
  cases high
  · simp only [Bool.false_eq_true, if_false]
    rw [perHalf_map env n (fun a b => [nth b 0, nth a 0, nth b 1, nth a 1]) _ (by intro a b; simp), vex_map, setReg_evalS]
    rfl
  · simp only [if_true]
    rw [perHalf_map env n (fun a b => [nth b 2, nth a 2, nth b 3, nth a 3]) _ (by intro a b; simp), vex_map, setReg_evalS]
    rfl

theorem map_ite_evalL (p : Nat → Prop) [DecidablePred p] (a b : Nat → Lane Expr) (l : List Nat) :
    (l.map fun i => if p i then a i else b i).map (evalL env) = l.map fun i => if p i then evalL env (a i) else evalL env (b i) := by
  simp only [List.map_map, Function.comp_def, apply_ite (evalL env)]

theorem range_map_nat (c : Nat → Bool) (f : Nat → Nat) (x : List (Lane Expr)) :
    (List.range 4).map (fun i => if c i then nth (x.map (evalL env)) (f i) else (z : Lane α)) =
    ((List.range 4).map (fun i => if c i then nth x (f i) else (z : Lane Expr))).map (evalL env) := by
  simp only [map_ite_evalL, nth_map, evalL_z]

theorem exec_natural (table : String → List Nat × Nat) (ins : VIns) (s : S Expr) :
    exec table ins (evalS env s) = (exec table ins s).map (evalS env) := by
  unfold exec
  split
  -- one case per arm of `exec`, in its order. `evalS` commutes with reading (`src_evalS`, `getReg_evalS`) and with writing
  -- (`setReg_evalS`, `setReg_app`, `store_evalS`); in between, only the arithmetic arms touch the value in a lane.
  -- zeroing, and moves between registers and memory
  case h_1 => rfl   -- MOVQ
  case h_2 => rfl   -- RET
  case h_3 =>   -- VZEROUPPER
    simp only [Option.map_some, Option.some.injEq]
    exact evalS_regs_map env s (fun r => lo r ++ zero4) (fun r => lo r ++ zero4) (by intro r; simp)
  case h_4 =>   -- VZEROALL
    simp only [Option.map_some, Option.some.injEq]
    exact evalS_regs_map env s (fun _ => zero8) (fun _ => zero8) (by intro r; simp)
  case h_5 =>   -- VMOVUPS load
    simp only [src_evalS]
    cases src table s _ _ <;> simp [vex_map, setReg_evalS]
  case h_6 | h_8 =>   -- VMOVUPS, MOVUPS store
    simp only [getReg_evalS, ← List.map_take]
    exact store_evalS env s _ _
  case h_7 =>   -- MOVUPS load
    simp only [src_evalS, getReg_evalS, hi_map]
    cases src table s _ _ <;> simp [setReg_app]
  case h_9 =>   -- MOVL CX to memory
    show store (evalS env s) _ ([s.cx].map (evalL env)) = _
    exact store_evalS env s _ _
  case h_10 =>   -- MOVL memory to CX
    simp only [src_evalS]
    cases src table s _ _ <;> simp [evalS, nth_map]
  case h_11 =>   -- VPMOVZXBD
    simp only [src_evalS]
    cases src table s _ _ <;> simp [setReg_evalS]
  -- the permutation is read from integer lanes (`.i k`), which `evalL` leaves as they are
  case h_12 =>   -- VPERMD, VPERMPS
    simp only [src_evalS, getReg_evalS]
    refine bind_natural _ _ _ _ _ fun data => congrArg some ?_
    rw [← setReg_evalS]
    congr 1
    simp only [List.map_map]
    apply List.map_congr_left
    intro l _
    cases l <;> simp [evalL, nth_map]
  -- lane-wise arithmetic (`bin3`, and `bin2` below): `Alg.add/sub/div` on `Expr` evaluate to the target's by `rfl`
  case h_13 | h_14 | h_15 | h_16 | h_17 | h_18 => exact bin3_natural env table _ _ (fun _ _ => rfl) _ s _ _ _   -- VADDPS/VSUBPS/VDIVPS: ymm, then xmm
  case h_19 | h_20 | h_21 | h_22 => exact unpck_natural env table _ _ s _ _ _   -- VUNPCKLPS/VUNPCKHPS (VPUNPCKLDQ/HDQ): ymm, then xmm
  case h_23 | h_24 => exact bin2_natural env table _ _ (fun _ _ => rfl) s _ _   -- ADDPS, DIVPS
  -- shuffles, shifts by whole lanes, blends: the immediate picks positions or zero (`nth_map`, `evalL_z`, `map_zero4`)
  case h_25 =>   -- PSHUFD
    simp only [src_evalS, getReg_evalS, hi_map]
    cases src table s _ _ <;> simp [shuf4_map, setReg_app]
  case h_26 | h_27 =>   -- VPSRLDQ, VPSLLDQ
    simp only [getReg_evalS, ← List.map_take]
    split
    · simp only [Option.map_some, ← setReg_app, map_ite_evalL, nth_map, evalL_z, map_zero4]
    · rfl
  case h_28 =>   -- VSHUFPS
    simp only [src_evalS, getReg_evalS, ← List.map_take]
    refine bind_natural _ _ _ _ _ fun x => congrArg some ?_
    rw [← setReg_app]
    simp only [List.map_cons, List.map_nil, nth_map, map_zero4]
  case h_29 =>   -- VBLENDPS
    simp only [src_evalS, getReg_evalS, ← List.map_take]
    refine bind_natural _ _ _ _ _ fun x => congrArg some ?_
    simp only [← setReg_app, map_ite_evalL, nth_map, map_zero4]
  case h_30 =>   -- VPERM2F128
    simp only [src_evalS, getReg_evalS]
    refine bind_natural _ _ _ _ _ fun x => congrArg some ?_
    rw [← setReg_app]
    congr 2
    · split
      · simp
      · split <;> simp
    · split
      · simp
      · split <;> simp
  case h_31 => rfl   -- anything else

theorem run_natural (table : String → List Nat × Nat) (prog : List VIns) (s : S Expr) :
    run table prog (evalS env s) = (run table prog s).map (evalS env) := by
  induction prog generalizing s with
  | nil => rfl
  | cons i t ih =>
    simp only [run]
    rw [exec_natural]
    cases exec table i s with
    | none => rfl
    | some s' => simp only [Option.map_some]; exact ih s'

theorem init_natural (xs : List Expr) (frame : Nat) : S.init (xs.map (eval env)) frame = evalS env (S.init xs frame) := by
  unfold S.init evalS
  simp only [List.map_replicate, map_zero8, evalL_z, List.map_map]
  congr 1

/-- **Naturality of the assembly semantics**: running a program in any arithmetic on the values of symbolic inputs is
evaluating the symbolic result. -/
theorem kernel_natural (table : String → List Nat × Nat) (prog : List VIns) (frame : Nat) (xs : List Expr) :
    kernel table prog frame (xs.map (eval env)) = (kernel table prog frame xs).map (·.map (evalL env)) := by
  unfold kernel
  rw [init_natural, run_natural]
  cases run table prog (S.init xs frame) <;> simp [evalS]

theorem getA_map (l : List Expr) (k : Nat) : getA (l.map (eval env)) k = eval env (getA l k) := by
  unfold getA
  simp only [List.getD_eq_getElem?_getD, List.getElem?_map]
  cases l[k]? <;> simp

theorem goStep_natural (half : List Expr → List Expr) (half' : List α → List α)
    (hh : ∀ l, half' (l.map (eval env)) = (half l).map (eval env)) (tab : List Nat) (x : List Expr) :
    goStep half' tab (x.map (eval env)) = (goStep half tab x).map (eval env) := by
  unfold goStep
  simp only [List.length_map, getA_map]
  have h1 : (List.range (x.length / 2)).map (fun i => Alg.add (eval env (getA x i)) (eval env (getA x (x.length - 1 - i)))) =
      ((List.range (x.length / 2)).map (fun i => Alg.add (getA x i) (getA x (x.length - 1 - i)))).map (eval env) := by
    simp [List.map_map, Function.comp_def]
  have h2 : (List.range (x.length / 2)).map (fun i => Alg.div (Alg.sub (eval env (getA x i)) (eval env (getA x (x.length - 1 - i)))) (Alg.lit (tab.getD i 0))) =
      ((List.range (x.length / 2)).map (fun i => Alg.div (Alg.sub (getA x i) (getA x (x.length - 1 - i))) (Alg.lit (tab.getD i 0)))).map (eval env) := by
    simp [List.map_map, Function.comp_def]
  rw [h1, h2, hh, hh]
  simp only [getA_map, List.map_append, List.map_flatten, List.map_map, List.map_cons, List.map_nil]
  congr 1

theorem goDct2_natural (c : Nat) (x : List Expr) : goDct2 c (x.map (eval env)) = (goDct2 c x).map (eval env) := by
  unfold goDct2; simp [getA_map]

theorem goDct4_natural (g : GoTabs) (x : List Expr) : goDct4 g (x.map (eval env)) = (goDct4 g x).map (eval env) := by
  unfold goDct4
  simp only [getA_map]
  have e1 : [Alg.add (eval env (getA x 0)) (eval env (getA x 3)), Alg.add (eval env (getA x 1)) (eval env (getA x 2))] =
      [Alg.add (getA x 0) (getA x 3), Alg.add (getA x 1) (getA x 2)].map (eval env) := by simp
  have e2 : [Alg.div (Alg.sub (eval env (getA x 0)) (eval env (getA x 3))) (Alg.lit (g.t4.getD 0 0)), Alg.div (Alg.sub (eval env (getA x 1)) (eval env (getA x 2))) (Alg.lit (g.t4.getD 1 0))] =
      [Alg.div (Alg.sub (getA x 0) (getA x 3)) (Alg.lit (g.t4.getD 0 0)), Alg.div (Alg.sub (getA x 1) (getA x 2)) (Alg.lit (g.t4.getD 1 0))].map (eval env) := by simp
  rw [e1, e2, goDct2_natural, goDct2_natural]
  simp [getA_map]

theorem goDct8_natural (g : GoTabs) (x : List Expr) : goDct8 g (x.map (eval env)) = (goDct8 g x).map (eval env) :=
  goStep_natural env _ _ (goDct4_natural env g) _ x
theorem goDct16_natural (g : GoTabs) (x : List Expr) : goDct16 g (x.map (eval env)) = (goDct16 g x).map (eval env) :=
  goStep_natural env _ _ (goDct8_natural env g) _ x
theorem goDct32_natural (g : GoTabs) (x : List Expr) : goDct32 g (x.map (eval env)) = (goDct32 g x).map (eval env) :=
  goStep_natural env _ _ (goDct16_natural env g) _ x
theorem goDct64_natural (g : GoTabs) (x : List Expr) : goDct64 g (x.map (eval env)) = (goDct64 g x).map (eval env) :=
  goStep_natural env _ _ (goDct32_natural env g) _ x
theorem goDct128_natural (g : GoTabs) (x : List Expr) : goDct128 g (x.map (eval env)) = (goDct128 g x).map (eval env) :=
  goStep_natural env _ _ (goDct64_natural env g) _ x
theorem goDct256_natural (g : GoTabs) (x : List Expr) : goDct256 g (x.map (eval env)) = (goDct256 g x).map (eval env) :=
  goStep_natural env _ _ (goDct128_natural env g) _ x

end Imeta.AvxSem
