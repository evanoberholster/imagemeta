/-
  Lemmas for C17: Go map literals, and the documented formatting function `Doc.name` as a lookup with default in the
  documentation's byte table `Doc.table`, so that a generated stringer and the documentation are compared as two tables.
-/
import Imeta.Gen.Enums
import Imeta.Spec.Enums
namespace Imeta.EnumLemmas
open Imeta Imeta.EnumSpec

def isOk {α} : G α → Bool | .ok _ => true | _ => false
@[simp] theorem isOk_ok {α} (a : α) : isOk (Outcome.ok a) = true := rfl
theorem isOk_bind_pure {α} (a : G α) : isOk (Outcome.bind a fun x => Outcome.ok x) = isOk a := by
  cases a <;> rfl

theorem gmapGet_mem {κ ν} [BEq κ] [LawfulBEq κ] {m : List (κ × ν)} {k : κ} {x : ν} (h : gmapGet m k = some x) :
    (k, x) ∈ m := by
  induction m with
  | nil => cases h
  | cons e rest ih =>
    obtain ⟨k', v⟩ := e
    simp only [gmapGet] at h
    split at h
    · rename_i hk; cases h; simp [eq_of_beq hk]
    · exact List.mem_cons_of_mem _ (ih h)

theorem gsprintf0_map (m : List (Int × Bytes)) (v : Int) (h : (m.all fun e => !e.2.contains 0x25) = true) :
    gsprintf0 ((gmapGet m v).getD []) = .ok ((gmapGet m v).getD []) := by
  cases hg : gmapGet m v with
  | none => rfl
  | some s =>
    have := List.all_eq_true.mp h _ (gmapGet_mem hg)
    simp only [Bool.not_eq_true'] at this
    simp only [Option.getD_some, gsprintf0, this, Bool.false_eq_true, if_false]

/-- formatting with `m` then parsing with `back` is the identity; the outer `if`: an unbound value formats as the empty
string, which is not parsed -/
theorem gmapGet_inverse (m : List (Int × Bytes)) (back : List (Bytes × Int))
    (h : (m.all fun e => e.2.isEmpty || gmapGet back e.2 == some e.1) = true) (v : Int) :
    (if ((gmapGet m v).getD []).isEmpty then v else (gmapGet back ((gmapGet m v).getD [])).getD 0) = v := by
  cases hg : gmapGet m v with
  | none => rfl
  | some s =>
    have := List.all_eq_true.mp h _ (gmapGet_mem hg)
    simp only [Bool.or_eq_true, beq_iff_eq] at this
    simp only [Option.getD_some]
    split
    · rfl
    · rename_i hs; rw [this.resolve_left hs]; rfl

theorem isOk_gbyteAt (s : Bytes) (n : Nat) (h : n < s.length) : isOk (gbyteAt s (n : Int)) = true := by
  simp [gbyteAt, List.getElem?_eq_getElem h, isOk, show ¬ (n : Int) < 0 by omega]

/-- the Go idiom `s, ok := m[k]; if ok { return s }; return d` -/
theorem commaOk_getD {ν} (o : Option ν) (a d : ν) :
    (if o.isSome then Outcome.ok (o.getD a) else .ok d) = .ok (o.getD d) := by
  cases o <;> rfl

/-- the map literal a table-driven stringer should contain -/
def _root_.Imeta.EnumSpec.Doc.table (d : Doc) : List (Int × Bytes) := d.names.map fun e => (e.1, asc e.2)

theorem _root_.Imeta.EnumSpec.Doc.name_eq_gmapGet (d : Doc) (v : Int) :
    d.name v = (gmapGet d.table v).getD (asc d.fallback) := by
  unfold Doc.name Doc.table
  induction d.names with
  | nil => rfl
  | cons e t ih =>
    obtain ⟨k, s⟩ := e
    simp only [List.lookup, List.map_cons, gmapGet]
    by_cases h : k = v
    · subst h; simp
    · rw [show (v == k) = false by simpa using fun h' => h h'.symm, show (k == v) = false by simpa using h]
      simpa using ih

theorem gmapGet_far {ν} (m : List (Int × ν)) (N v : Int)
    (h : (m.all fun e => decide (0 ≤ e.1) && decide (e.1 < N)) = true) (hv : v < 0 ∨ N ≤ v) :
    gmapGet m v = none := by
  cases hg : gmapGet m v with
  | none => rfl
  | some x =>
    have := List.all_eq_true.mp h _ (gmapGet_mem hg)
    simp only [Bool.and_eq_true, decide_eq_true_eq] at this
    omega

/-- **A stringer that looks its argument up in a map literal** formats every integer as documented, provided the
literal is the documentation's table and the default is its fallback. -/
theorem _root_.Imeta.EnumSpec.Doc.name_of_table (d : Doc) (m : List (Int × Bytes)) (fb : Bytes) (hm : m = d.table)
    (hfb : fb = asc d.fallback) (v : Int) : (gmapGet m v).getD fb = d.name v := by
  rw [Doc.name_eq_gmapGet, hm, hfb]

/-- **A stringer with an index table and a guard, or a switch**: it formats as documented on the values `P` of its type
if it does below `N` (a finite comparison; the documentation's byte table is evaluated once for the whole sweep, which
is why it is stated through `Doc.table`), the documented keys lie below `N`, and from `N` on and below 0 it returns
the fallback. -/
theorem _root_.Imeta.EnumSpec.Doc.names_of_sweep (d : Doc) (f : Int → G Bytes) (N : Nat) (P : Int → Prop)
    (hk : (d.table.all fun e => decide (0 ≤ e.1) && decide (e.1 < N)) = true)
    (hin : ∀ n : Nat, n < N → f n = .ok ((gmapGet d.table n).getD (asc d.fallback)))
    (hfar : ∀ v, P v → v < 0 ∨ N ≤ v → f v = .ok (asc d.fallback)) (v : Int) (hv : P v) :
    f v = .ok (d.name v) := by
  rw [Doc.name_eq_gmapGet]
  by_cases h : 0 ≤ v ∧ v < N
  · obtain ⟨n, rfl⟩ := Int.eq_ofNat_of_zero_le h.1
    exact hin n (by omega)
  · rw [gmapGet_far _ N v hk (by omega)]
    exact hfar v hv (by omega)

end Imeta.EnumLemmas
