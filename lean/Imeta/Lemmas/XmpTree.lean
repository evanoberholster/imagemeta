/-
  C13: the tree level.  Two notions — a piece of the stream that is one round of `readTag` below a tag (`Round`), and a
  stretch of it that is `n` rounds (`Walk`) — and three facts: rounds in sequence are a walk (`Walk.list`), an element with
  attributes around a walk is a round (`readTag_wrap`, `Walk.wrap`), and the array element with its items is a round
  (`readTag_seq`).  Simple elements, self-closing elements, array properties, the children of a Description and the
  Descriptions of a packet are instances.
-/
import Imeta.Lemmas.XmpElem
namespace Imeta.Xmp

/-- **One round.** Behind any gap, `B R` makes one round of `readTag` below `parent` (given `need` further rounds of fuel)
hand on `K` and go on at `R`. -/
def Round (parent : Tag) (need : Nat) (B : Bytes → Bytes) (K : List Tok → List Tok) : Prop :=
  ∀ (F : Nat) (st : St) (ws R : Bytes), need ≤ F → st.rest = ws ++ B R → Gap ws →
    readTag (F + 1) parent st = readTag F parent { rest := R, a := false, toks := K st.toks }

theorem Round.mono {tag need need' B K} (h : Round tag need B K) (hn : need ≤ need') : Round tag need' B K :=
  fun F st ws R hF => h F st ws R (Nat.le_trans hn hF)

/-- **A walk of `n` rounds** over `C T`, ending at `T` -/
def Walk (tag : Tag) (need n : Nat) (C : Bytes → Bytes) (K : List Tok → List Tok) : Prop :=
  ∀ (F : Nat) (T : Bytes) (toks : List Tok), need ≤ F →
    readTag (F + n) tag { rest := C T, a := false, toks := toks } = readTag F tag { rest := T, a := false, toks := K toks }

theorem Walk.run {tag need n C K} (h : Walk tag need n C K) (F : Nat) (T : Bytes) (st : St) (hF : need ≤ F) (ha : st.a = false)
    (hr : st.rest = C T) : readTag (F + n) tag st = readTag F tag { rest := T, a := false, toks := K st.toks } := by
  obtain ⟨rest, a, toks⟩ := st
  subst ha; subst hr
  exact h F T toks hF

/-- **Rounds in sequence.** `S` and `P` are a serialisation and a token function defined by recursion on the list (`serC` and
`pushC`, `serDs` and `pushDs`, `serE · ++ ·` and `pushE`); each member is a round. -/
theorem Walk.list {ι} (tag : Tag) (need : Nat) (B : ι → Bytes → Bytes) (K : ι → List Tok → List Tok)
    (S : List (Bytes × ι) → Bytes → Bytes) (P : List (Bytes × ι) → List Tok → List Tok)
    (hS0 : ∀ T, S [] T = T) (hS : ∀ ws x l T, S ((ws, x) :: l) T = ws ++ B x (S l T))
    (hP0 : ∀ acc, P [] acc = acc) (hP : ∀ ws x l acc, P ((ws, x) :: l) acc = P l (K x acc)) :
    ∀ (l : List (Bytes × ι)), (∀ p ∈ l, Gap p.1 ∧ Round tag need (B p.2) (K p.2)) → Walk tag need l.length (S l) (P l) := by
  intro l
  induction l with
  | nil => intro _ F T toks _; rw [hS0, hP0]; rfl
  | cons p l ih =>
    intro hok F T toks hF
    obtain ⟨ws, x⟩ := p
    have hp := hok (ws, x) (by simp)
    show readTag (F + l.length + 1) tag _ = _
    rw [hp.2 (F + l.length) _ ws (S l T) (by omega) (hS ws x l T) hp.1, hP]
    exact ih (fun q hq => hok q (List.mem_cons_of_mem _ hq)) F T _ hF

theorem elem_round (parent : Tag) (e : Elem) (ok : e.OK) :
    Round parent 1 (fun R => e.bytes ++ R) (fun acc => { pt := 2, parent := parent.self, self := e.prop, val := e.v } :: acc) := by
  intro F st ws R hF hr hg
  obtain ⟨f, rfl⟩ : ∃ f, F = f + 1 := ⟨F - 1, by omega⟩
  exact readTag_element_exact parent st ws e R f (by rw [hr]; simp) hg ok

theorem elements_walk (parent : Tag) (l : List (Bytes × Elem)) (hok : ∀ p ∈ l, (∀ x ∈ p.1, (x == 60) = false) ∧ p.1.length + 128 ≤ W ∧ p.2.OK) :
    Walk parent 1 l.length (fun T => serE l ++ T) (pushE parent.self l) :=
  Walk.list parent 1 (fun e T => e.bytes ++ T) (fun e acc => { pt := 2, parent := parent.self, self := e.prop, val := e.v } :: acc)
    (fun l T => serE l ++ T) (pushE parent.self) (fun _ => rfl) (fun _ _ _ _ => by simp [serE]) (fun _ => rfl) (fun _ _ _ _ => rfl) l
    (fun p hp => ⟨⟨(hok p hp).1, (hok p hp).2.1⟩, elem_round parent p.2 (hok p hp).2.2⟩)

theorem solo_round (parent : Tag) (n : Name) (ok : n.OK) :
    Round parent 0 (fun R => 60 :: ((n.n0 :: n.ns) ++ 58 :: (n.name ++ 47 :: 62 :: R))) id := by
  intro F st ws R _ hr hg
  rw [readTag, bind_ok (readTagHeader_solo_exact parent st ws n.n0 n.ns n.name R hr hg.1 hg.2 ok.h0 ok.hns ok.hname ok.hfit)]
  rfl

/-- a name that may carry content: neither an array nor the root -/
structure Plain (D : Name) : Prop where
  ok : D.OK
  seq : (D.prop == rdfSeq || D.prop == rdfAlt || D.prop == rdfBag) = false
  root : (D.prop == rootProp) = false

theorem closeT_length (ws : Bytes) (D : Name) (R : Bytes) : 5 ≤ (ws ++ D.closeT R).length := by simp [Name.closeT]; omega

/-- **An element around a walk** (rdf:RDF around the Descriptions, rdf:Description around its children, a property around
its array): `ws0 <D attrs> wsV content ws2 </D>`, where the content starts with a tag and is walked below D (`hkids`, with at
least one round of fuel left for the stop tag).
One round of `readTag` hands on the attributes, then what the walk hands on, and goes on behind the stop tag. -/
theorem readTag_wrap (parent : Tag) (st : St) (D : Name) (la : List (Bytes × Attr)) (ws0 wsV X ws2 R : Bytes)
    (K : List Tok → List Tok) (F g : Nat)
    (hr : st.rest = ws0 ++ openA D la (wsV ++ 60 :: X)) (hD : Plain D) (hg0 : Gap ws0) (hoka : AttrsOK la)
    (hwsV : ∀ x ∈ wsV, isWs x = true) (hwinV : wsV.length < 512)
    (hkids : readTag F { t := .start, parent := parent.self, self := D.prop } { rest := 60 :: X, a := false, toks := pushAll D.prop la st.toks } =
      readTag (g + 1) { t := .start, parent := parent.self, self := D.prop } { rest := ws2 ++ D.closeT R, a := false, toks := K (pushAll D.prop la st.toks) })
    (hXlen : 5 ≤ (60 :: X : Bytes).length) (hg2 : Gap ws2) :
    readTag (F + 1) parent st = readTag F parent { rest := R, a := false, toks := K (pushAll D.prop la st.toks) } := by
  obtain ⟨c, t, hct⟩ := List.exists_cons_of_ne_nil (show (wsV ++ 60 :: X : Bytes) ≠ [] by simp)
  rw [hct] at hr
  obtain ⟨st1, hh, ha⟩ := openTag none parent st ws0 D la c t hr hg0 hD.ok hoka
  rw [pushAttrs_none] at ha
  rw [readTag, bind_ok hh]
  simp only [isEndTag_start, Bool.false_eq_true, if_false]
  rw [len_bind, bind_ok ha]
  simp only [beq_self_eq_true, if_true, hD.seq, Bool.false_eq_true, if_false, bind_assoc]
  -- the element's own value is empty: its content starts with a tag
  rw [bind_ok (readTagValue_empty 7 _ wsV X (by show c :: t = _; rw [hct]) hwsV hwinV
    (by show 4 < (c :: t : Bytes).length; rw [← hct]; simp at hXlen ⊢; omega)), bind_ok (emit_apply _ _)]
  show (readTag F _ >>= _) { rest := 60 :: X, a := false, toks := pushAll D.prop la st.toks } = _
  rw [bind_eq_of_eq hkids]
  exact readTag_stop parent D hD.ok hD.root _ ws2 R rfl hg2 g F parent.self

theorem Walk.wrap {parent : Tag} {D : Name} {need n : Nat} {C : Bytes → Bytes} {K : List Tok → List Tok}
    (hw : Walk { t := .start, parent := parent.self, self := D.prop } need n C K) (h1 : 1 ≤ need) (hC : ∀ T, T.length ≤ (C T).length)
    (la : List (Bytes × Attr)) (wsV ws2 : Bytes) (hD : Plain D) (hoka : AttrsOK la) (hwsV : ∀ x ∈ wsV, isWs x = true)
    (hwinV : wsV.length < 512) (hg2 : Gap ws2) (F : Nat) (st : St) (ws0 R : Bytes) (hF : need + n ≤ F)
    (hr : st.rest = ws0 ++ openA D la (wsV ++ C (ws2 ++ D.closeT R))) (hg0 : Gap ws0) (hX : ∃ X, 60 :: X = C (ws2 ++ D.closeT R)) :
    readTag (F + 1) parent st = readTag F parent { rest := R, a := false, toks := K (pushAll D.prop la st.toks) } := by
  obtain ⟨X, hX⟩ := hX
  obtain ⟨g, rfl⟩ : ∃ g, F = g + 1 + n := ⟨F - 1 - n, by omega⟩
  exact readTag_wrap parent st D la ws0 wsV X ws2 R K _ g (hX ▸ hr) hD hg0 hoka hwsV hwinV (hw.run (g + 1) _ _ (by omega) rfl hX)
    (by rw [hX]; have := hC (ws2 ++ D.closeT R); have := closeT_length ws2 D R; omega) hg2

theorem Round.walk {tag need B K} (h : Round tag need B K) : Walk tag need 1 B K :=
  fun F T _ hF => h F _ [] T hF rfl Gap.nil

/-- `readTag_wrap` for an element written without attributes. -/
theorem readTag_wrapper0_exact (parent : Tag) (st : St) (D : Name) (ws0 wsV X ws2 R : Bytes) (n : Nat) (K : List Tok → List Tok) (f : Nat)
    (hr : st.rest = ws0 ++ 60 :: ((D.n0 :: D.ns) ++ 58 :: (D.name ++ 62 :: (wsV ++ 60 :: X))))
    (hD : D.OK) (hDseq : (D.prop == rdfSeq || D.prop == rdfAlt || D.prop == rdfBag) = false) (hDroot : (D.prop == rootProp) = false)
    (hws0 : ∀ x ∈ ws0, (x == 60) = false) (hwin0 : ws0.length + 128 ≤ W)
    (hwsV : ∀ x ∈ wsV, isWs x = true) (hwinV : wsV.length < 512)
    (hkids : ∀ toks0, readTag (f + 1 + n) { t := .start, parent := parent.self, self := D.prop } { rest := 60 :: X, a := false, toks := toks0 } =
      readTag (f + 1) { t := .start, parent := parent.self, self := D.prop } { rest := ws2 ++ D.closeT R, a := false, toks := K toks0 })
    (hXlen : 5 ≤ (60 :: X : Bytes).length)
    (hws2 : ∀ x ∈ ws2, (x == 60) = false) (hwin2 : ws2.length + 128 ≤ W) :
    readTag (f + 2 + n) parent st =
      readTag (f + 1 + n) parent { rest := R, a := false, toks := K st.toks } := by
  rw [show f + 2 + n = f + 1 + n + 1 by omega]
  exact readTag_wrap parent st D [] ws0 wsV X ws2 R K _ f hr ⟨hD, hDseq, hDroot⟩ ⟨hws0, hwin0⟩ AttrsOK.nil hwsV hwinV (hkids _) hXlen ⟨hws2, hwin2⟩

/-- what `readSeqTags_item` asks of an item element (as `Elem.OK`, without the conditions on the property) -/
structure Elem.Item (e : Elem) : Prop where
  h0 : e.n0 ≠ 47 ∧ e.n0 ≠ 63
  hns : ∀ x ∈ e.n0 :: e.ns, (x == 58) = false
  hname : ∀ x ∈ e.name, isTerm x = false
  hfit : e.ns.length + e.name.length + 5 ≤ 128
  hc : isWs e.c = false
  hv : ∀ x ∈ e.v, (x == 60) = false
  hvwin : e.v.length < 1536

/-- the tokens of the items (newest first): the array's own property, the array as parent -/
def pushI (parent : Tag) : List (Bytes × Elem) → List Tok → List Tok
  | [], acc => acc
  | (_, e) :: l, acc => pushI parent l ({ pt := 2, parent := parent.self, self := parent.parent, val := e.v } :: acc)

/-- an item as written: with `la = []` this is `Elem.bytes` -/
def itemBytes (la : List (Bytes × Attr)) (e : Elem) : Bytes :=
  60 :: ((e.n0 :: e.ns) ++ 58 :: (e.name ++ (ser la ++ 62 :: (e.v ++ e.close))))

def serIA : List (Bytes × List (Bytes × Attr) × Elem) → Bytes
  | [] => []
  | (ws, la, e) :: l => ws ++ itemBytes la e ++ serIA l

def pushIA (parent : Tag) : List (Bytes × List (Bytes × Attr) × Elem) → List Tok → List Tok
  | [], acc => acc
  | (_, la, e) :: l, acc => pushIA parent l ({ pt := 2, parent := parent.self, self := parent.parent, val := e.v } :: pushAllSeq parent.parent la acc)

theorem Elem.Item.name {e : Elem} (ok : e.Item) : (nameOf e).OK := ⟨ok.h0, ok.hns, ok.hname, ok.hfit⟩

/-- an item takes two rounds of readSeqTags: start tag, attributes and value; then its stop tag -/
theorem readSeqTags_item (parent : Tag) (st : St) (ws : Bytes) (e : Elem) (la : List (Bytes × Attr)) (R : Bytes) (f : Nat)
    (hr : st.rest = ws ++ itemBytes la e ++ R) (hg : Gap ws) (ok : e.Item) (hoka : AttrsOK la) (hne : (e.prop == parent.self) = false) :
    readSeqTags parent (f + 2) st =
      readSeqTags parent f { rest := R, a := false, toks := { pt := 2, parent := parent.self, self := parent.parent, val := e.v } :: pushAllSeq parent.parent la st.toks } := by
  obtain ⟨st1, hh, ha⟩ := openTag (some parent.parent) parent st ws (nameOf e) la e.c (e.v' ++ e.close ++ R)
    (by rw [hr]; simp [itemBytes, openA, nameOf, Elem.v]) hg ok.name hoka
  rw [pushAttrs_some] at ha
  rw [readSeqTags, bind_ok hh]
  simp only [isEndTag_start, Bool.false_eq_true, if_false, beq_self_eq_true, if_true]
  rw [len_bind, bind_ok ha]
  rw [bind_ok (readTagValue_any _ e.c e.v' (e.close.tail ++ R) ok.hv ok.hc ok.hvwin (by simp [Elem.close]) (by simp [Elem.close]; omega)),
    bind_ok (emit_apply _ _)]
  -- the item's stop tag: neither the end of the array nor a start tag
  rw [readSeqTags]
  rw [bind_ok (readTagHeader_stop_exact parent _ [] e.n0 e.ns e.name R (by simp [Elem.close]) (by simp) (by unfold W; simp) ok.hns ok.hname ok.hfit)]
  unfold Elem.prop at hne
  have he2 : isEndTag { t := .stop, parent := parent.self, self := identify (e.n0 :: e.ns) e.name } parent.self = false := by
    simp [isEndTag, hne]
  simp only [he2, Bool.false_eq_true, if_false]
  rfl

def ItemsOK (A : Prop2) (l : List (Bytes × List (Bytes × Attr) × Elem)) : Prop :=
  ∀ p ∈ l, (∀ x ∈ p.1, (x == 60) = false) ∧ p.1.length + 128 ≤ W ∧ p.2.2.Item ∧ (p.2.2.prop == A) = false ∧
      (∀ q ∈ p.2.1, (∀ x ∈ q.1, isWs x = true) ∧ q.1 ≠ [] ∧ q.2.OK)

theorem readSeqTags_items_exact (parent : Tag) (wsE : Bytes) (n0 : UInt8) (ns name R : Bytes)
    (hwsE : ∀ x ∈ wsE, (x == 60) = false) (hwinE : wsE.length + 128 ≤ W)
    (hnsE : ∀ x ∈ n0 :: ns, (x == 58) = false) (hnameE : ∀ x ∈ name, isTerm x = false) (hfitE : ns.length + name.length + 5 ≤ 128)
    (hself : identify (n0 :: ns) name = parent.self) :
    ∀ (l : List (Bytes × List (Bytes × Attr) × Elem)) (f : Nat) (st : St),
    st.rest = serIA l ++ (wsE ++ 60 :: 47 :: ((n0 :: ns) ++ 58 :: (name ++ 62 :: R))) → ItemsOK parent.self l →
    readSeqTags parent (f + 1 + 2 * l.length) st = (.ok (), { rest := R, a := false, toks := pushIA parent l st.toks }) := by
  intro l
  induction l with
  | nil =>
    intro f st hr _
    show readSeqTags parent (f + 1) st = _
    rw [readSeqTags, bind_ok (readTagHeader_stop_exact parent st wsE n0 ns name R (by rw [hr]; simp [serIA]) hwsE hwinE hnsE hnameE hfitE)]
    simp only [hself, isEndTag_stop, if_true]
    rfl
  | cons p l ih =>
    intro f st hr hok
    obtain ⟨ws, la, e⟩ := p
    have hp := hok (ws, la, e) (by simp)
    rw [show f + 1 + 2 * ((ws, la, e) :: l).length = (f + 1 + 2 * l.length) + 2 by simp only [List.length_cons]; omega,
      readSeqTags_item parent st ws e la (serIA l ++ (wsE ++ 60 :: 47 :: ((n0 :: ns) ++ 58 :: (name ++ 62 :: R)))) (f + 1 + 2 * l.length)
        (by rw [hr]; simp [serIA]) ⟨hp.1, hp.2.1⟩ hp.2.2.1 hp.2.2.2.2 hp.2.2.2.1,
      ih f _ rfl (fun q hq => hok q (List.mem_cons_of_mem _ hq))]
    rfl

def lift (l : List (Bytes × Elem)) : List (Bytes × List (Bytes × Attr) × Elem) := l.map fun p => (p.1, [], p.2)

theorem lift_length (l : List (Bytes × Elem)) : (lift l).length = l.length := List.length_map ..

theorem serIA_lift (l : List (Bytes × Elem)) : serIA (lift l) = serE l := by
  induction l with
  | nil => rfl
  | cons p l ih => simp [lift, serIA, serE, itemBytes, Elem.bytes, ser] at ih ⊢; rw [ih]

theorem pushIA_lift (parent : Tag) (l : List (Bytes × Elem)) : ∀ acc, pushIA parent (lift l) acc = pushI parent l acc := by
  induction l with
  | nil => intro _; rfl
  | cons p l ih => intro acc; exact ih _

theorem ItemsOK_lift (A : Prop2) (l : List (Bytes × Elem))
    (hok : ∀ p ∈ l, (∀ x ∈ p.1, (x == 60) = false) ∧ p.1.length + 128 ≤ W ∧ p.2.Item ∧ (p.2.prop == A) = false) : ItemsOK A (lift l) := by
  intro p hp
  obtain ⟨q, hq, rfl⟩ := List.mem_map.mp hp
  exact ⟨(hok q hq).1, (hok q hq).2.1, (hok q hq).2.2.1, (hok q hq).2.2.2, fun _ h => nomatch h⟩

/-- **The array element itself** `<A> items wsE </A>` (A = rdf:Seq / rdf:Bag / rdf:Alt) below a property: one round -/
theorem readTag_seq (P : Tag) (A : Name) (l : List (Bytes × List (Bytes × Attr) × Elem)) (wsE : Bytes) (hA : A.OK)
    (hAseq : (A.prop == rdfSeq || A.prop == rdfAlt || A.prop == rdfBag) = true) (hgE : Gap wsE) (hok : ItemsOK A.prop l) :
    Round P (1 + 2 * l.length) (fun T => A.openT (serIA l ++ (wsE ++ A.closeT T)))
      (pushIA { t := .start, parent := P.self, self := A.prop } l) := by
  intro F st ws T hF hr hg
  obtain ⟨f, rfl⟩ : ∃ f, F = f + 1 + 2 * l.length := ⟨F - (1 + 2 * l.length), by omega⟩
  rw [readTag]
  rw [bind_ok (readTagHeader_start_exact P st ws A.n0 A.ns A.name _ hr hg.1 hg.2 hA.h0 hA.hns hA.hname (by have := hA.hfit; omega)
    (by rw [hr]; simp [Name.openT, Name.closeT]; omega))]
  simp only [isEndTag_start, Bool.false_eq_true, if_false]
  rw [len_bind, bind_ok (attrLoop_noattr none _ _ _ rfl)]
  unfold Name.prop at hAseq
  simp only [beq_self_eq_true, if_true, hAseq, bind_assoc]
  rw [bind_ok (readSeqTags_items_exact { t := .start, parent := P.self, self := identify (A.n0 :: A.ns) A.name }
    wsE A.n0 A.ns A.name T hgE.1 hgE.2 hA.hns hA.hname hA.hfit rfl l f _ rfl hok), pure_bind_run]
  rfl

/-- **An array property, whole**: a plain element around the array element. -/
theorem readTag_array (parent : Tag) (P A : Name) (ws1 wsE ws2 : Bytes) (l : List (Bytes × List (Bytes × Attr) × Elem))
    (hP : Plain P) (hA : A.OK) (hAseq : (A.prop == rdfSeq || A.prop == rdfAlt || A.prop == rdfBag) = true)
    (hws1 : ∀ x ∈ ws1, isWs x = true) (hwin1 : ws1.length < 512) (hgE : Gap wsE) (hg2 : Gap ws2) (hok : ItemsOK A.prop l) :
    Round parent (2 + 2 * l.length) (fun R => P.openT (ws1 ++ A.openT (serIA l ++ (wsE ++ A.closeT (ws2 ++ P.closeT R)))))
      (pushIA { t := .start, parent := P.prop, self := A.prop } l) :=
  fun F st ws0 R hF hr hg0 =>
    (readTag_seq { t := .start, parent := parent.self, self := P.prop } A l wsE hA hAseq hgE hok).walk.wrap (by omega)
      (fun T => by simp [Name.openT, Name.closeT]; omega) [] ws1 ws2 hP AttrsOK.nil hws1 hwin1 hg2 F st ws0 R (by omega) hr hg0 ⟨_, rfl⟩

/-- a child of rdf:Description: a simple property in element form, or an array property -/
inductive Child where
  | elem (e : Elem)
  | arr (P A : Name) (ws1 wsE ws2 : Bytes) (l : List (Bytes × Elem))
  /-- an array whose items may carry attributes (`<rdf:li xml:lang="x-default">`: the Alt arrays of dc:title, dc:rights, dc:description) -/
  | arrA (P A : Name) (ws1 wsE ws2 : Bytes) (l : List (Bytes × List (Bytes × Attr) × Elem))
  /-- a self-closing element without attributes: an empty array `<rdf:Bag/>`, an unknown empty property -/
  | solo (n : Name)

def Child.ser : Child → Bytes → Bytes
  | .elem e, R => e.bytes ++ R
  | .arr P A ws1 wsE ws2 l, R => P.openT (ws1 ++ A.openT (serE l ++ (wsE ++ A.closeT (ws2 ++ P.closeT R))))
  | .arrA P A ws1 wsE ws2 l, R => P.openT (ws1 ++ A.openT (serIA l ++ (wsE ++ A.closeT (ws2 ++ P.closeT R))))
  | .solo n, R => 60 :: ((n.n0 :: n.ns) ++ 58 :: (n.name ++ 47 :: 62 :: R))

def Child.push (parent : Prop2) : Child → List Tok → List Tok
  | .elem e, acc => { pt := 2, parent := parent, self := e.prop, val := e.v } :: acc
  | .arr P A _ _ _ l, acc => pushI { t := .start, parent := P.prop, self := A.prop } l acc
  | .arrA P A _ _ _ l, acc => pushIA { t := .start, parent := P.prop, self := A.prop } l acc
  | .solo _, acc => acc

/-- the rounds of fuel its nesting needs -/
def Child.need : Child → Nat
  | .elem _ => 1
  | .arr _ _ _ _ _ l => 2 + 2 * l.length
  | .arrA _ _ _ _ _ l => 2 + 2 * l.length
  | .solo _ => 0

def Child.OK : Child → Prop
  | .elem e => e.OK
  | .arr P A ws1 wsE ws2 l =>
    P.OK ∧ A.OK ∧ (∀ x ∈ ws1, isWs x = true) ∧ ws1.length < 512 ∧
    (∀ x ∈ wsE, (x == 60) = false) ∧ wsE.length + 128 ≤ W ∧ (∀ x ∈ ws2, (x == 60) = false) ∧ ws2.length + 128 ≤ W ∧
    (P.prop == rdfSeq || P.prop == rdfAlt || P.prop == rdfBag) = false ∧ (P.prop == rootProp) = false ∧
    (A.prop == rdfSeq || A.prop == rdfAlt || A.prop == rdfBag) = true ∧
    (∀ p ∈ l, (∀ x ∈ p.1, (x == 60) = false) ∧ p.1.length + 128 ≤ W ∧ p.2.Item ∧ (p.2.prop == A.prop) = false)
  | .arrA P A ws1 wsE ws2 l =>
    P.OK ∧ A.OK ∧ (∀ x ∈ ws1, isWs x = true) ∧ ws1.length < 512 ∧
    (∀ x ∈ wsE, (x == 60) = false) ∧ wsE.length + 128 ≤ W ∧ (∀ x ∈ ws2, (x == 60) = false) ∧ ws2.length + 128 ≤ W ∧
    (P.prop == rdfSeq || P.prop == rdfAlt || P.prop == rdfBag) = false ∧ (P.prop == rootProp) = false ∧
    (A.prop == rdfSeq || A.prop == rdfAlt || A.prop == rdfBag) = true ∧
    (∀ p ∈ l, (∀ x ∈ p.1, (x == 60) = false) ∧ p.1.length + 128 ≤ W ∧ p.2.2.Item ∧ (p.2.2.prop == A.prop) = false ∧
      (∀ q ∈ p.2.1, (∀ x ∈ q.1, isWs x = true) ∧ q.1 ≠ [] ∧ q.2.OK))
  | .solo n => n.OK

theorem child_round (parent : Tag) (c : Child) (ok : c.OK) : Round parent c.need c.ser (c.push parent.self) := by
  cases c with
  | elem e => exact elem_round parent e ok
  | solo n => exact solo_round parent n ok
  | arrA P A ws1 wsE ws2 l =>
    obtain ⟨hP, hA, h1, h1w, hE, hEw, h2, h2w, hPs, hPr, hAs, hl⟩ := ok
    exact readTag_array parent P A ws1 wsE ws2 l ⟨hP, hPs, hPr⟩ hA hAs h1 h1w ⟨hE, hEw⟩ ⟨h2, h2w⟩ hl
  | arr P A ws1 wsE ws2 l =>
    obtain ⟨hP, hA, h1, h1w, hE, hEw, h2, h2w, hPs, hPr, hAs, hl⟩ := ok
    have := readTag_array parent P A ws1 wsE ws2 (lift l) ⟨hP, hPs, hPr⟩ hA hAs h1 h1w ⟨hE, hEw⟩ ⟨h2, h2w⟩ (ItemsOK_lift _ l hl)
    rw [lift_length, serIA_lift, funext (pushIA_lift _ l)] at this
    exact this

def serC : List (Bytes × Child) → Bytes → Bytes
  | [], R => R
  | (ws, c) :: cs, R => ws ++ c.ser (serC cs R)

def pushC (parent : Prop2) : List (Bytes × Child) → List Tok → List Tok
  | [], acc => acc
  | (_, c) :: cs, acc => pushC parent cs (c.push parent acc)

theorem serC_length (cs : List (Bytes × Child)) (T : Bytes) : T.length ≤ (serC cs T).length := by
  induction cs with
  | nil => simp [serC]
  | cons p cs ih =>
    obtain ⟨ws, c⟩ := p
    cases c <;> simp only [serC, Child.ser, Elem.bytes, Name.openT, Name.closeT, List.length_append, List.length_cons] <;> omega

/-- **Children in any order**: simple elements, array properties and self-closing elements mixed, any gaps between them -/
theorem children_walk (parent : Tag) (cs : List (Bytes × Child)) (F : Nat)
    (hok : ∀ p ∈ cs, (∀ x ∈ p.1, (x == 60) = false) ∧ p.1.length + 128 ≤ W ∧ p.2.OK ∧ p.2.need ≤ F) :
    Walk parent F cs.length (serC cs) (pushC parent.self cs) :=
  Walk.list parent F Child.ser (fun c => c.push parent.self) serC (pushC parent.self) (fun _ => rfl) (fun _ _ _ _ => rfl)
    (fun _ => rfl) (fun _ _ _ _ => rfl) cs
    (fun p hp => ⟨⟨(hok p hp).1, (hok p hp).2.1⟩, (child_round parent p.2 (hok p hp).2.2.1).mono (hok p hp).2.2.2⟩)

/-- one rdf:Description: its name, attributes, children and the white space inside it -/
structure DescR where
  D : Name
  wsV : Bytes
  ws2 : Bytes
  la : List (Bytes × Attr)
  cs : List (Bytes × Child)

def DescR.ser (d : DescR) (T : Bytes) : Bytes :=
  60 :: ((d.D.n0 :: d.D.ns) ++ 58 :: (d.D.name ++ (Xmp.ser d.la ++ 62 :: (d.wsV ++ serC d.cs (d.ws2 ++ d.D.closeT T)))))

def DescR.push (d : DescR) (acc : List Tok) : List Tok := pushC d.D.prop d.cs (pushAll d.D.prop d.la acc)

/-- what the theorem asks of a Description; `F` = rounds of nesting available -/
structure DescR.OK (d : DescR) (F : Nat) : Prop where
  hD : d.D.OK
  hDseq : (d.D.prop == rdfSeq || d.D.prop == rdfAlt || d.D.prop == rdfBag) = false
  hDroot : (d.D.prop == rootProp) = false
  hoka : ∀ p ∈ d.la, (∀ x ∈ p.1, isWs x = true) ∧ p.1 ≠ [] ∧ p.2.OK
  hwsV : ∀ x ∈ d.wsV, isWs x = true
  hwinV : d.wsV.length < 512
  hws2 : ∀ x ∈ d.ws2, (x == 60) = false
  hwin2 : d.ws2.length + 128 ≤ W
  /-- the content starts with a tag: the first child follows the white space `wsV` directly, or there is no child and no
  white space before the stop tag -/
  hhead : ∀ T, ∃ X, 60 :: X = serC d.cs (d.ws2 ++ d.D.closeT T)
  hfuel : d.cs.length + 2 ≤ F
  hokc : ∀ p ∈ d.cs, (∀ x ∈ p.1, (x == 60) = false) ∧ p.1.length + 128 ≤ W ∧ p.2.OK ∧ p.2.need + d.cs.length + 1 ≤ F

theorem desc_round (parent : Tag) (d : DescR) (F : Nat) (ok : d.OK F) : Round parent F d.ser d.push := by
  have hf := ok.hfuel
  have hw := children_walk { t := .start, parent := parent.self, self := d.D.prop } d.cs (F - d.cs.length - 1)
    (fun p hp => ⟨(ok.hokc p hp).1, (ok.hokc p hp).2.1, (ok.hokc p hp).2.2.1, by have := (ok.hokc p hp).2.2.2; omega⟩)
  exact fun G st ws0 T hG hr hg => hw.wrap (by omega) (serC_length d.cs) d.la d.wsV d.ws2 ⟨ok.hD, ok.hDseq, ok.hDroot⟩ ok.hoka
    ok.hwsV ok.hwinV ⟨ok.hws2, ok.hwin2⟩ G st ws0 T (by omega) hr hg (ok.hhead T)

def serDs : List (Bytes × DescR) → Bytes → Bytes
  | [], T => T
  | (ws, d) :: ds, T => ws ++ d.ser (serDs ds T)

def pushDs : List (Bytes × DescR) → List Tok → List Tok
  | [], acc => acc
  | (_, d) :: ds, acc => pushDs ds (d.push acc)

theorem serDs_length (ds : List (Bytes × DescR)) (T : Bytes) : T.length ≤ (serDs ds T).length := by
  induction ds with
  | nil => simp [serDs]
  | cons p ds ih =>
    obtain ⟨ws, d⟩ := p
    have h1 := serC_length d.cs (d.ws2 ++ d.D.closeT (serDs ds T))
    simp only [serDs, DescR.ser, List.length_append, List.length_cons, Name.closeT] at h1 ⊢
    omega

/-- **Several Descriptions**, any gaps between them: one round of readTag each, the tokens of each in document order -/
theorem descs_walk (parent : Tag) (ds : List (Bytes × DescR)) (F : Nat)
    (hok : ∀ p ∈ ds, (∀ x ∈ p.1, (x == 60) = false) ∧ p.1.length + 128 ≤ W ∧ p.2.OK F) :
    Walk parent F ds.length (serDs ds) (pushDs ds) :=
  Walk.list parent F DescR.ser DescR.push serDs pushDs (fun _ => rfl) (fun _ _ _ _ => rfl) (fun _ => rfl) (fun _ _ _ _ => rfl) ds
    (fun p hp => ⟨⟨(hok p hp).1, (hok p hp).2.1⟩, desc_round parent p.2 F (hok p hp).2.2⟩)

end Imeta.Xmp
