/-
  Base facts of the Exif reader model: byte-order inverses, the indexing primitives (when they return, that they never
  report `fuel`), the pending-tag buffer.
-/
import Imeta.Model.ExifReader
import Imeta.Lemmas.Outcome
namespace Imeta.Exif
open Imeta

theorem leNat_lt (b : Bytes) : leNat b < 256 ^ b.length := by
  induction b with
  | nil => simp [leNat]
  | cons x t ih =>
    simp only [leNat, List.length_cons, Nat.pow_succ]
    have := x.toNat_lt
    omega

theorem leBytes_leNat (b : Bytes) : leBytes b.length (leNat b) = b := by
  induction b with
  | nil => rfl
  | cons x t ih =>
    simp only [List.length_cons, leBytes, leNat]
    have hx := x.toNat_lt
    have h1 : (x.toNat + 256 * leNat t) % 256 = x.toNat := by omega
    have h2 : (x.toNat + 256 * leNat t) / 256 = leNat t := by omega
    rw [h1, h2, ih]
    simp

theorem put_uint (o : ByteOrder) (b : Bytes) : o.put b.length (o.uint b) = b := by
  cases o
  · exact leBytes_leNat b
  · exact leBytes_leNat b
  · simp only [ByteOrder.put, ByteOrder.uint, beBytes, beNat]
    have := leBytes_leNat b.reverse
    simp only [List.length_reverse] at this
    rw [this, List.reverse_reverse]

theorem uint_put_of_lt (o : ByteOrder) (n v : Nat) (h : v < 256 ^ n) : o.uint (o.put n v) = v := by
  rw [ByteOrder.uint_put, Nat.mod_eq_of_lt h]

theorem slc_mid (a b c : Bytes) (lo hi : Nat) (h1 : a.length = lo) (h2 : lo + b.length = hi) :
    slc (a ++ b ++ c) lo hi = .ok b := by
  unfold slc
  rw [if_pos (by simp only [List.length_append]; omega)]
  rw [List.append_assoc, List.drop_left' h1, List.take_left' (by omega)]

theorem rd32_ok (o : ByteOrder) (b : Bytes) (lo : Nat) (h : lo + 4 ≤ b.length) :
    rd32 o b lo = .ok (o.uint ((b.drop lo).take 4)) := by
  unfold rd32 slc
  rw [if_pos ⟨by omega, h⟩]
  simp only [Outcome.bind, Nat.add_sub_cancel_left]
  unfold u32
  rw [if_neg (by simp only [List.length_take, List.length_drop]; omega)]
  rw [List.take_take, Nat.min_self]

theorem rd16_ok (o : ByteOrder) (b : Bytes) (lo : Nat) (h : lo + 2 ≤ b.length) :
    rd16 o b lo = .ok (o.uint ((b.drop lo).take 2)) := by
  unfold rd16 slc
  rw [if_pos ⟨by omega, h⟩]
  simp only [Outcome.bind, Nat.add_sub_cancel_left]
  unfold u16
  rw [if_neg (by simp only [List.length_take, List.length_drop]; omega)]
  rw [List.take_take, Nat.min_self]

theorem rd16_seam (o : ByteOrder) (x y z : Bytes) {t : Bytes} {lo : Nat} (ht : t = x ++ (y ++ z)) (hlo : lo = x.length)
    (hy : y.length = 2) : rd16 o t lo = .ok (o.uint y) := by
  subst ht hlo
  rw [rd16_ok _ _ _ (by simp only [List.length_append]; omega), List.drop_left, ← hy, List.take_left]

theorem rd32_seam (o : ByteOrder) (x y z : Bytes) {t : Bytes} {lo : Nat} (ht : t = x ++ (y ++ z)) (hlo : lo = x.length)
    (hy : y.length = 4) : rd32 o t lo = .ok (o.uint y) := by
  subst ht hlo
  rw [rd32_ok _ _ _ (by simp only [List.length_append]; omega), List.drop_left, ← hy, List.take_left]

theorem idx_ok (b : Bytes) (i : Nat) (h : i < b.length) : idx b i = .ok b[i] := by
  simp [idx, List.getElem?_eq_getElem h]
theorem slc_ok (b : Bytes) (lo hi : Nat) (h1 : lo ≤ hi) (h2 : hi ≤ b.length) :
    slc b lo hi = .ok ((b.drop lo).take (hi - lo)) := by simp [slc, h1, h2]
theorem slc_eq_ok {b x : Bytes} {lo hi : Nat} (h : slc b lo hi = .ok x) : x = (b.drop lo).take (hi - lo) := by
  unfold slc at h; split at h <;> cases h; rfl
theorem slc_len (b : Bytes) (lo hi : Nat) (h1 : lo ≤ hi) (h2 : hi ≤ b.length) : ((b.drop lo).take (hi - lo)).length = hi - lo := by
  rw [List.length_take, List.length_drop]; omega
theorem u32_ok (o : ByteOrder) (b : Bytes) (h : 4 ≤ b.length) : u32 o b = .ok (o.uint (b.take 4)) := by
  unfold u32; rw [if_neg (by omega)]
theorem u16_ok (o : ByteOrder) (b : Bytes) (h : 2 ≤ b.length) : u16 o b = .ok (o.uint (b.take 2)) := by
  unfold u16; rw [if_neg (by omega)]
theorem embedded_len (t : Tag) : (embedded t).length = 4 := ByteOrder.put_length _ _ _

/-- `x` is not a Go panic (an index or slice out of range) -/
def NP {α} (x : Outcome α) : Prop := x.isPanic = false

theorem np_ok {α} (a : α) : NP (Outcome.ok a) := rfl
theorem rd32_np (o : ByteOrder) (b : Bytes) (lo : Nat) (h : lo + 4 ≤ b.length) : NP (rd32 o b lo) := by
  rw [rd32_ok o b lo h]; rfl
theorem rd16_np (o : ByteOrder) (b : Bytes) (lo : Nat) (h : lo + 2 ≤ b.length) : NP (rd16 o b lo) := by
  rw [rd16_ok o b lo h]; rfl

/-- `x` did not use up the rounds the model allows its loops -/
structure NF {α} (x : Outcome α) : Prop where
  h : x ≠ .fuel

theorem NF.ok {α} (v : α) : NF (Outcome.ok v) := ⟨nofun⟩
theorem NF.panic {α} (s : String) : NF (Outcome.panic s : Outcome α) := ⟨nofun⟩
theorem NF.ite {α} {c : Prop} [Decidable c] {a b : Outcome α} (ha : NF a) (hb : NF b) : NF (if c then a else b) := by
  split <;> assumption
theorem NF.bind {α β} {x : Outcome α} {f : α → Outcome β} (hx : NF x) (hf : ∀ v, NF (f v)) : NF (x >>= f) := by
  cases x with
  | ok v => exact hf v
  | err k => exact ⟨nofun⟩
  | panic s => exact ⟨nofun⟩
  | fuel => exact absurd rfl hx.h

theorem NF.slc (b : Bytes) (lo hi : Nat) : NF (slc b lo hi) := by
  unfold Exif.slc; exact NF.ite (NF.ok _) (NF.panic _)
theorem NF.u16 (o : ByteOrder) (b : Bytes) : NF (u16 o b) := by
  unfold Exif.u16; exact NF.ite (NF.panic _) (NF.ok _)
theorem NF.u32 (o : ByteOrder) (b : Bytes) : NF (u32 o b) := by
  unfold Exif.u32; exact NF.ite (NF.panic _) (NF.ok _)
theorem NF.rd16 (o : ByteOrder) (b : Bytes) (lo : Nat) : NF (rd16 o b lo) := NF.bind (NF.slc _ _ _) (fun _ => NF.u16 _ _)
theorem NF.rd32 (o : ByteOrder) (b : Bytes) (lo : Nat) : NF (rd32 o b lo) := NF.bind (NF.slc _ _ _) (fun _ => NF.u32 _ _)

theorem NF.tagFromBuffer (ifd : Ifd) (e : Bytes) : NF (tagFromBuffer ifd e) := by
  unfold Exif.tagFromBuffer
  exact NF.bind (NF.rd16 _ _ _) fun _ => NF.bind (NF.rd16 _ _ _) fun _ => NF.bind (NF.rd32 _ _ _) fun _ =>
    NF.bind (NF.rd32 _ _ _) fun _ => NF.ite (NF.ok _) (NF.ok _)

theorem tagFromBuffer_ok (ifd : Ifd) (e : Bytes) (h : 12 ≤ e.length) : ∃ ot, tagFromBuffer ifd e = .ok ot := by
  unfold tagFromBuffer
  simp only [bind, Outcome.bind, rd16_ok _ e 0 (by omega), rd16_ok _ e 2 (by omega), rd32_ok _ e 4 (by omega), rd32_ok _ e 8 (by omega)]
  split <;> exact ⟨_, rfl⟩

def Sorted (l : List Tag) : Prop := List.Pairwise (fun a b => a.off ≤ b.off) l

theorem pairwise_insert {α} {R : α → α → Prop} {l : List α} (hl : l.Pairwise R) (i : Nat) {t : α}
    (hlo : ∀ x ∈ l.take i, R x t) (hhi : ∀ x ∈ l.drop i, R t x) : (l.take i ++ t :: l.drop i).Pairwise R := by
  rw [← List.take_append_drop i l, List.pairwise_append] at hl
  rw [List.pairwise_append, List.pairwise_cons]
  exact ⟨hl.1, ⟨hhi, hl.2.1⟩, fun a ha b hb => (List.mem_cons.mp hb).elim (· ▸ hlo a ha) (hl.2.2 a ha b)⟩

theorem insertFrom_spec (t : Tag) (l : List Tag) (n : Nat) (hn : n ≤ l.length)
    (hup : ∀ x ∈ l.drop n, t.off ≤ x.off) (res : List Tag) (h : insertFrom t n l = some res) :
    ∃ i, res = l.take i ++ t :: l.drop i ∧ (∀ x ∈ l.drop i, t.off ≤ x.off) ∧ (Sorted l → ∀ x ∈ l.take i, x.off ≤ t.off) := by
  induction n with
  | zero => simp [insertFrom] at h
  | succ k ih =>
    have hk : k < l.length := by omega
    simp only [insertFrom, List.getElem?_eq_getElem hk] at h
    split at h
    · rename_i hgt
      cases h
      refine ⟨k + 1, rfl, hup, fun hs x hx => ?_⟩
      -- every element of the first k+1 is ≤ l[k] (sortedness), and l[k].off < t.off
      rw [List.take_succ_eq_append_getElem hk, List.mem_append, List.mem_singleton] at hx
      rcases hx with hx | rfl
      · obtain ⟨j, hj, rfl⟩ := List.mem_take_iff_getElem.mp hx
        have := List.pairwise_iff_getElem.mp hs j k (by omega) hk (by omega)
        omega
      · omega
    · apply ih (by omega) _ h
      intro x hx
      rw [List.drop_eq_getElem_cons hk, List.mem_cons] at hx
      rcases hx with rfl | hx
      · omega
      · exact hup x hx

theorem insertFrom_none (t : Tag) (l : List Tag) (n : Nat) (hn : n ≤ l.length) (h : insertFrom t n l = none) :
    ∀ x ∈ l.take n, t.off ≤ x.off := by
  induction n with
  | zero => intro x hx; simp at hx
  | succ k ih =>
    have hk : k < l.length := hn
    simp only [insertFrom, List.getElem?_eq_getElem hk] at h
    split at h
    · cases h
    · intro x hx
      rw [List.take_succ_eq_append_getElem hk, List.mem_append, List.mem_singleton] at hx
      rcases hx with hx | rfl
      · exact ih (by omega) h x hx
      · omega

theorem perm_insert_mid {α} (l : List α) (i : Nat) (t : α) : (l.take i ++ t :: l.drop i).Perm (t :: l) := by
  have : (l.take i ++ t :: l.drop i).Perm (t :: (l.take i ++ l.drop i)) := List.perm_middle
  rwa [List.take_append_drop] at this

/-- **What `addTagBuffer` does**: it leaves the reader alone — the value lies behind the position, the buffer is full, or a
pending tag has the same offset — or it inserts `t` in front of offsets ≥ t.off only and, in a sorted queue, behind offsets ≤ t.off only. -/
theorem addTag_cases (r : R) (t : Tag) :
    (addTag r t = r ∧ (t.off < r.po ∨ tagMaxCount ≤ r.tags.length ∨ ∃ x ∈ r.tags, x.off = t.off)) ∨
    ∃ i, r.tags.length < tagMaxCount ∧ addTag r t = { r with tags := r.tags.take i ++ t :: r.tags.drop i } ∧
      (∀ x ∈ r.tags.drop i, t.off ≤ x.off) ∧ (Sorted r.tags → ∀ x ∈ r.tags.take i, x.off ≤ t.off) := by
  unfold addTag
  by_cases hpo : t.off < r.po
  · rw [if_pos hpo]; exact Or.inl ⟨rfl, Or.inl hpo⟩
  · rw [if_neg hpo]
    by_cases hlen : r.tags.length < tagMaxCount
    · rw [if_pos hlen]
      cases hi : insertFrom t r.tags.length r.tags with
      | some res =>
        obtain ⟨i, rfl, h⟩ := insertFrom_spec t r.tags r.tags.length (Nat.le_refl _) (by simp) res hi
        exact Or.inr ⟨i, hlen, rfl, h⟩
      | none =>
        have hall := insertFrom_none t r.tags _ (Nat.le_refl _) hi
        rw [List.take_length] at hall
        dsimp only
        split
        · rename_i hnil
          exact Or.inr ⟨0, hlen, by simp [hnil], by simp [hnil], by simp⟩
        · rename_i a tl hcons
          split
          · exact Or.inr ⟨0, hlen, by simp, by simpa using hall, by simp⟩
          · exact Or.inl ⟨rfl, Or.inr (Or.inr ⟨a, by simp [hcons], by have := hall a (by simp [hcons]); omega⟩)⟩
    · rw [if_neg hlen]; exact Or.inl ⟨rfl, Or.inr (Or.inl (by omega))⟩

theorem addTag_shape (r : R) (t : Tag) : addTag r t = r ∨ ∃ i, addTag r t = { r with tags := r.tags.take i ++ t :: r.tags.drop i } :=
  (addTag_cases r t).imp (·.1) fun ⟨i, _, h, _⟩ => ⟨i, h⟩

/-- **Nothing is dropped** when the value lies ahead, a slot is free and the offset is new -/
theorem addTag_queued (r : R) (t : Tag) (hs : Sorted r.tags) (hpo : r.po ≤ t.off) (hlen : r.tags.length < tagMaxCount)
    (hne : ∀ x ∈ r.tags, x.off ≠ t.off) :
    ∃ i, addTag r t = { r with tags := r.tags.take i ++ t :: r.tags.drop i } ∧
      (∀ x ∈ r.tags.take i, x.off ≤ t.off) ∧ (∀ x ∈ r.tags.drop i, t.off ≤ x.off) := by
  rcases addTag_cases r t with ⟨_, h | h | ⟨x, hx, h⟩⟩ | ⟨i, _, h, hhi, hlo⟩
  · omega
  · omega
  · exact absurd h (hne x hx)
  · exact ⟨i, h, hlo hs, hhi⟩

/-- **Buffer invariant, one step**: `addTagBuffer` keeps the pending tags sorted by offset and never exceeds 84 slots. -/
theorem addTag_inv (r : R) (t : Tag) (hs : Sorted r.tags) (hl : r.tags.length ≤ tagMaxCount) :
    Sorted (addTag r t).tags ∧ (addTag r t).tags.length ≤ tagMaxCount := by
  rcases addTag_cases r t with ⟨h, _⟩ | ⟨i, hlen, h, hhi, hlo⟩ <;> rw [h]
  · exact ⟨hs, hl⟩
  · exact ⟨pairwise_insert hs i (hlo hs) hhi, by have := (perm_insert_mid r.tags i t).length_eq; simp only [List.length_cons] at this ⊢; omega⟩

theorem addTag_keep (r : R) (t : Tag) : (addTag r t).ex = r.ex ∧ (addTag r t).parsed = r.parsed := by
  rcases addTag_shape r t with h | ⟨i, h⟩ <;> rw [h] <;> exact ⟨rfl, rfl⟩

theorem resetPosition_inv (r : R) (hs : Sorted r.tags) (hl : r.tags.length ≤ tagMaxCount) :
    Sorted (resetPosition r).tags ∧ (resetPosition r).tags.length ≤ tagMaxCount := by
  unfold resetPosition
  split
  · refine ⟨List.Pairwise.sublist (List.drop_sublist _ _) hs, ?_⟩
    simp only [List.length_drop]; omega
  · exact ⟨hs, hl⟩

end Imeta.Exif
