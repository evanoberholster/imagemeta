/-
  Facts about `Outcome` for the Exif lemma files (imported through Lemmas/Exif.lean): what a computation returns (`Ret`,
  `Post`), inversion of a bind that returned, mapping over the result (`Exif.omap`).
-/
import Imeta.Go.Basic
namespace Imeta

/-- One statement for the three forms the properties take: that `x` does not panic, that it does not run out of fuel, and
every "if `x` returns `a` then `Q a`" are its projections (`Ret.isPanic`, `Ret.ne_fuel`, `Ret.post`). -/
def Ret {α} (x : Outcome α) (Q : α → Prop) : Prop := ∃ a, x = .ok a ∧ Q a

namespace Ret
variable {α β : Type} {x : Outcome α} {Q : α → Prop}

theorem ok {a : α} (h : Q a) : Ret (.ok a) Q := ⟨a, rfl, h⟩

theorem bind {f : α → Outcome β} {P : α → Prop} {Q : β → Prop}
    (hx : Ret x P) (hf : ∀ a, P a → Ret (f a) Q) : Ret (x >>= f) Q := by
  obtain ⟨a, rfl, ha⟩ := hx; exact hf a ha

theorem mono {Q' : α → Prop} (h : Ret x Q) (hq : ∀ a, Q a → Q' a) : Ret x Q' := by
  obtain ⟨a, e, ha⟩ := h; exact ⟨a, e, hq a ha⟩

theorem ite {c : Prop} [Decidable c] {a b : Outcome α} (ha : c → Ret a Q) (hb : ¬c → Ret b Q) : Ret (if c then a else b) Q := by
  split
  · exact ha ‹_›
  · exact hb ‹_›

theorem isPanic (h : Ret x Q) : x.isPanic = false := by obtain ⟨a, rfl, _⟩ := h; rfl
theorem ne_fuel (h : Ret x Q) : x ≠ .fuel := by obtain ⟨a, rfl, _⟩ := h; exact nofun
theorem post (h : Ret x Q) {a : α} (ha : x = .ok a) : Q a := by
  obtain ⟨b, hb, hq⟩ := h; rw [hb] at ha; cases ha; exact hq

end Ret

def Post {α} (x : Outcome α) (Q : α → Prop) : Prop := ∀ a, x = .ok a → Q a

namespace Post
variable {α β : Type} {x : Outcome α} {Q : α → Prop}

theorem ok {a : α} (h : Q a) : Post (.ok a) Q := fun _ e => by cases e; exact h

theorem bind {f : α → Outcome β} {Q : β → Prop} (hf : ∀ a, x = .ok a → Post (f a) Q) : Post (x >>= f) Q := by
  intro b h
  cases x with
  | ok a => exact hf a rfl b h
  | err k => cases h
  | panic s => cases h
  | fuel => cases h

theorem ite {c : Prop} [Decidable c] {a b : Outcome α} (ha : c → Post a Q) (hb : ¬c → Post b Q) :
    Post (if c then a else b) Q := by
  split
  · exact ha ‹_›
  · exact hb ‹_›

end Post

theorem Outcome.bind_eq_ok {α β} {x : Outcome α} {f : α → Outcome β} {v : β} (h : (x >>= f) = .ok v) :
    ∃ a, x = .ok a ∧ f a = .ok v := by
  cases x with
  | ok a => exact ⟨a, rfl, h⟩
  | err k => cases h
  | panic s => cases h
  | fuel => cases h

theorem Outcome.ok_ite {α} {c : Prop} [Decidable c] {a b : Outcome α} (ha : c → ∃ v, a = .ok v) (hb : ¬c → ∃ v, b = .ok v) :
    ∃ v, (if c then a else b) = .ok v := by
  split
  · exact ha ‹_›
  · exact hb ‹_›

theorem Outcome.bind_pure {β} (x : Outcome β) : (x >>= fun v => Outcome.ok v) = x := by cases x <;> rfl

end Imeta

namespace Imeta.Exif

def omap {α β} (f : α → β) : Outcome α → Outcome β
  | .ok a => .ok (f a)
  | .err k => .err k
  | .panic s => .panic s
  | .fuel => .fuel

@[simp] theorem omap_ok {α β} (f : α → β) (a : α) : omap f (.ok a) = .ok (f a) := rfl
theorem omap_ite {α β} (f : α → β) (c : Prop) [Decidable c] (a b : Outcome α) : omap f (if c then a else b) = if c then omap f a else omap f b := by
  split <;> rfl
theorem omap_eq_ok {α β} {f : α → β} {x : Outcome α} {b : β} (h : omap f x = .ok b) : ∃ a, x = .ok a ∧ f a = b := by
  cases x <;> cases h; exact ⟨_, rfl, rfl⟩
theorem omap_bind {α β γ} (f : β → γ) (x : Outcome α) (g : α → Outcome β) : omap f (x >>= g) = x >>= fun v => omap f (g v) := by
  cases x <;> rfl

end Imeta.Exif
