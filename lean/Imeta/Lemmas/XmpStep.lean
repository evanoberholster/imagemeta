/-
  Stepping through the XMP reader model, and the little algebra of "the stream is a prefix, a byte, and the rest".
  A fact about a reader is an equation `m st = (.ok a, st')`; `bind_ok` moves it through `>>=`.
  Streams are written right-nested, `P ++ c :: R` (what `simp` makes of any other bracketing), so that a search in
  `P ++ c₁ :: … :: cₖ :: S` that starts at `P.length + k` is brought to `S` by `simp only` with `idxFrom_append_add`,
  `idxFrom_cons_succ`; a look-ahead window is `take`, and what the model searches in it is stated of the stream
  (`idxFrom_take`, core's `findIdx_take`, `getElem?_take`, `drop_take`).
-/
import Imeta.Model.Xmp
namespace Imeta.Xmp

theorem bind_eq_of_eq {α β} {m m' : M α} {s s' : St} (h : m s = m' s') (k : α → M β) : (m >>= k) s = (m' >>= k) s' := by
  show (match m s with | (.ok a, st') => k a st' | (.error e, st') => (.error e, st')) =
       (match m' s' with | (.ok a, st') => k a st' | (.error e, st') => (.error e, st'))
  rw [h]

theorem bind_ok {α β} {m : M α} {f : α → M β} {st st' : St} {a : α} (h : m st = (.ok a, st')) : (m >>= f) st = f a st' :=
  bind_eq_of_eq (m' := pure a) h f

theorem bind_err {α β} {m : M α} {f : α → M β} {st st' : St} {e : XErr} (h : m st = (.error e, st')) :
    (m >>= f) st = (.error e, st') :=
  bind_eq_of_eq (m' := fun s => (.error e, s)) h f

theorem bind_assoc {α β γ} (m : M α) (g : α → M β) (h : β → M γ) : (m >>= g) >>= h = m >>= fun a => g a >>= h := by
  funext st
  show (match (match m st with | (.ok a, st') => g a st' | (.error e, st') => (.error e, st')) with
        | (.ok b, st'') => h b st'' | (.error e, st'') => (.error e, st'')) =
       (match m st with | (.ok a, st') => (g a >>= h) st' | (.error e, st') => (.error e, st'))
  cases hm : m st with
  | mk r s1 => cases r <;> rfl

theorem pure_bind_run {α β} (a : α) (k : α → M β) (st : St) : (pure a >>= k) st = k a st := rfl
theorem len_bind {α} (k : Nat → M α) (st : St) : ((fun st => (.ok st.rest.length, st) : M Nat) >>= k) st = k st.rest.length st := rfl
theorem get_bind {α} (k : St → M α) (st : St) : ((fun st => (.ok st, st) : M St) >>= k) st = k st st := rfl
theorem getA_bind {α} (k : Bool → M α) (st : St) : (getA >>= k) st = k st.a st := rfl

theorem emit_apply (t : Tok) (st : St) : emit t st = (.ok (), { st with toks := if t.val.isEmpty then st.toks else t :: st.toks }) := by
  unfold emit; split <;> rfl

theorem at_ok (buf : Bytes) (i : Nat) (b : UInt8) (st : St) (h : buf[i]? = some b) : at? buf i st = (.ok b, st) := by
  unfold at?; rw [h]; rfl

/-- `h4`: xmpReader.Peek accepts a short read only when more than 4 bytes are left (xmp/reader.go:103, `len(buf) > 4`).
Every `4 <`, `4 ≤`, `5 ≤` on the length of a stream in the XMP lemmas is this condition, for one Peek or another. -/
theorem peek_take (n : Nat) (st : St) (hn : n ≤ W) (h4 : 4 < st.rest.length) : peek n st = (.ok (st.rest.take n), st) := by
  unfold peek
  rw [if_neg (by omega)]
  split
  · rw [List.take_of_length_le (by omega)]
  · rfl

theorem isWs_ne {w : UInt8} (hw : isWs w = true) : (w == 62) = false ∧ (w == 47) = false := by
  refine ⟨beq_eq_false_iff_ne.mpr ?_, beq_eq_false_iff_ne.mpr ?_⟩ <;> (rintro rfl; revert hw; decide)

theorem findIdx_skip (p : UInt8 → Bool) (v w : Bytes) (hv : ∀ x ∈ v, p x = false) : (v ++ w).findIdx p = v.length + w.findIdx p := by
  rw [List.findIdx_append, List.findIdx_eq_length_of_false hv, if_neg (Nat.lt_irrefl _), Nat.add_comm]

theorem findIdx_stretch (p : UInt8 → Bool) (v w : Bytes) (c : UInt8) (hv : ∀ x ∈ v, p x = false) (hc : p c = true) :
    (v ++ c :: w).findIdx p = v.length := by
  rw [findIdx_skip p v _ hv, List.findIdx_cons, hc]; rfl

theorem idxFrom_found (p : UInt8 → Bool) (ws X : Bytes) (c : UInt8) (i : Nat) (hi : i ≤ ws.length)
    (hws : ∀ x ∈ ws.drop i, p x = false) (hc : p c = true) : idxFrom p (ws ++ c :: X) i = ws.length := by
  unfold idxFrom
  rw [List.drop_append_of_le_length hi, findIdx_stretch p _ X c hws hc, List.length_drop]; omega

theorem idxFrom_none (p : UInt8 → Bool) (buf : Bytes) (i : Nat) (h : ∀ x ∈ buf, p x = false) : buf.length ≤ idxFrom p buf i := by
  unfold idxFrom
  rw [List.findIdx_eq_length_of_false (fun x hx => h x (List.mem_of_mem_drop hx)), List.length_drop]; omega

theorem idxFrom_stretch (p : UInt8 → Bool) (P R : Bytes) (c : UInt8) (hP : ∀ x ∈ P, p x = false) (hc : p c = true) :
    idxFrom p (P ++ c :: R) 0 = P.length :=
  idxFrom_found p P R c 0 (Nat.zero_le _) hP hc

theorem idxFrom_head (p : UInt8 → Bool) (c : UInt8) (R : Bytes) (hc : p c = true) : idxFrom p (c :: R) 0 = 0 :=
  idxFrom_stretch p [] R c (fun _ h => nomatch h) hc

theorem idxFrom_cons_succ (p : UInt8 → Bool) (a : UInt8) (l : Bytes) (i : Nat) : idxFrom p (a :: l) (i + 1) = idxFrom p l i + 1 := by
  unfold idxFrom; rw [List.drop_succ_cons]; omega

theorem idxFrom_append_add (p : UInt8 → Bool) (P S : Bytes) (i : Nat) : idxFrom p (P ++ S) (P.length + i) = P.length + idxFrom p S i := by
  unfold idxFrom; rw [List.drop_length_add_append]; omega

theorem idxFrom_take (p : UInt8 → Bool) (l : Bytes) {n i : Nat} (h : i ≤ n) : idxFrom p (l.take n) i = min n (idxFrom p l i) := by
  unfold idxFrom
  rw [List.drop_take, List.findIdx_take]; omega

theorem take_prefix (P R : Bytes) {n : Nat} (h : P.length ≤ n) : (P ++ R).take n = P ++ R.take (n - P.length) := by
  rw [List.take_append, List.take_of_length_le h]

theorem getElem?_prefix (P : Bytes) (c : UInt8) (R : Bytes) {l : Bytes} {i : Nat} (hl : l = P ++ c :: R) (hi : i = P.length) :
    l[i]? = some c := by
  subst hl hi; simp

theorem take_through (ws X : Bytes) (c : UInt8) {n : Nat} (h : ws.length < n) :
    (ws ++ c :: X).take n = ws ++ c :: X.take (n - ws.length - 1) := by
  obtain ⟨k, rfl⟩ : ∃ k, n = ws.length + (k + 1) := ⟨n - ws.length - 1, by omega⟩
  rw [List.take_append, List.take_of_length_le (by omega), show ws.length + (k + 1) - ws.length = k + 1 by omega,
    List.take_succ_cons]
  rfl

end Imeta.Xmp
