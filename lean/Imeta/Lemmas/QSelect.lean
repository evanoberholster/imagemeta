/-
  C19 / C02: quickSelectMedian (Lomuto partition, iterative) of the perceptual hashes.
  The model (Imeta.Model.Hash: partLoop, qselLoop, median over an array, with Go's index panics and a fuel bound) is
  proved here, for every array over a strict weak order (what `<` is on floats without NaN):
    * it never indexes out of range and never uses up its fuel (a round that does not shrink the range leaves the
      strict maximum of the range at its upper end, and the next round then shrinks it: at most 2·(hi-low)+1 rounds);
    * the result is a permutation of the input in which nothing left of k is larger than the element at k and nothing
      right of k is smaller: the element at k is the k-th order statistic (for k = n/2 the upper median).
-/
import Imeta.Model.Hash
namespace Imeta.Hash

structure StrictWeak (α : Type) [LT α] : Prop where
  asymm : ∀ a b : α, a < b → ¬ b < a
  trans : ∀ a b c : α, a < b → b < c → a < c
  ntrans : ∀ a b c : α, ¬ b < a → ¬ c < b → ¬ c < a

section
variable {α : Type}

theorem getA_ok (a : Array α) (i : Nat) (h : i < a.size) : getA a i = .ok a[i] := by
  unfold getA
  rw [Array.getElem?_eq_getElem h]

theorem swapA_ok (a : Array α) (i j : Nat) (hi : i < a.size) (hj : j < a.size) : swapA a i j = .ok (a.swap i j hi hj) := by
  unfold swapA
  rw [Array.getElem?_eq_getElem hi, Array.getElem?_eq_getElem hj]
  simp only [Array.swap_def, Array.setIfInBounds, hi, dite_true]
  simp [hj]

theorem getElem?_swap_cases (a : Array α) (i j : Nat) (hi : i < a.size) (hj : j < a.size) (m : Nat) (x : α)
    (h : (a.swap i j hi hj)[m]? = some x) : (m = j ∧ x = a[i]) ∨ (m = i ∧ x = a[j]) ∨ (m ≠ i ∧ m ≠ j ∧ a[m]? = some x) := by
  rw [Array.getElem?_swap] at h
  split at h
  · rename_i e
    exact Or.inl ⟨e.symm, (Option.some.inj h).symm⟩
  · split at h
    · rename_i e
      exact Or.inr (Or.inl ⟨e.symm, (Option.some.inj h).symm⟩)
    · rename_i e1 e2
      exact Or.inr (Or.inr ⟨fun e => e2 e.symm, fun e => e1 e.symm, h⟩)

/-- b rearranges a inside [lo, hi] and agrees with it elsewhere -/
structure Rng (lo hi : Nat) (a b : Array α) : Prop where
  size : b.size = a.size
  out : ∀ m, ¬(lo ≤ m ∧ m ≤ hi) → b[m]? = a[m]?
  fwd : ∀ m, lo ≤ m → m ≤ hi → ∃ m', lo ≤ m' ∧ m' ≤ hi ∧ b[m]? = a[m']?
  bwd : ∀ m, lo ≤ m → m ≤ hi → ∃ m', lo ≤ m' ∧ m' ≤ hi ∧ a[m]? = b[m']?
  perm : b.Perm a

theorem Rng.refl (lo hi : Nat) (a : Array α) : Rng lo hi a a :=
  ⟨rfl, fun _ _ => rfl, fun m h1 h2 => ⟨m, h1, h2, rfl⟩, fun m h1 h2 => ⟨m, h1, h2, rfl⟩, Array.Perm.refl _⟩

theorem Rng.trans {lo hi : Nat} {a b c : Array α} (h1 : Rng lo hi a b) (h2 : Rng lo hi b c) : Rng lo hi a c := by
  refine ⟨h2.size.trans h1.size, fun m hm => (h2.out m hm).trans (h1.out m hm), ?_, ?_, h2.perm.trans h1.perm⟩
  · intro m hl hh
    obtain ⟨m1, a1, b1, e1⟩ := h2.fwd m hl hh
    obtain ⟨m2, a2, b2, e2⟩ := h1.fwd m1 a1 b1
    exact ⟨m2, a2, b2, e1.trans e2⟩
  · intro m hl hh
    obtain ⟨m1, a1, b1, e1⟩ := h1.bwd m hl hh
    obtain ⟨m2, a2, b2, e2⟩ := h2.bwd m1 a1 b1
    exact ⟨m2, a2, b2, e1.trans e2⟩

theorem Rng.mono {lo hi lo' hi' : Nat} {a b : Array α} (h : Rng lo hi a b) (hl : lo' ≤ lo) (hh : hi ≤ hi') : Rng lo' hi' a b := by
  refine ⟨h.size, fun m hm => h.out m (by omega), ?_, ?_, h.perm⟩
  · intro m h1 h2
    by_cases hin : lo ≤ m ∧ m ≤ hi
    · obtain ⟨m', a1, b1, e⟩ := h.fwd m hin.1 hin.2; exact ⟨m', by omega, by omega, e⟩
    · exact ⟨m, h1, h2, h.out m hin⟩
  · intro m h1 h2
    by_cases hin : lo ≤ m ∧ m ≤ hi
    · obtain ⟨m', a1, b1, e⟩ := h.bwd m hin.1 hin.2; exact ⟨m', by omega, by omega, e⟩
    · exact ⟨m, h1, h2, (h.out m hin).symm⟩

theorem Rng.swap (lo hi : Nat) (a : Array α) (i j : Nat) (hi' : i < a.size) (hj : j < a.size)
    (h1 : lo ≤ i ∧ i ≤ hi) (h2 : lo ≤ j ∧ j ≤ hi) : Rng lo hi a (a.swap i j hi' hj) := by
  refine ⟨by simp, ?_, ?_, ?_, Array.swap_perm hi' hj⟩
  · intro m hm
    rw [Array.getElem?_swap]
    rw [if_neg (by omega), if_neg (by omega)]
  · intro m hl hh
    rw [Array.getElem?_swap]
    split
    · exact ⟨i, h1.1, h1.2, (Array.getElem?_eq_getElem hi').symm⟩
    · split
      · exact ⟨j, h2.1, h2.2, (Array.getElem?_eq_getElem hj).symm⟩
      · exact ⟨m, hl, hh, rfl⟩
  · intro m hl hh
    by_cases hmi : m = i
    · subst hmi
      refine ⟨j, h2.1, h2.2, ?_⟩
      rw [Array.getElem?_swap, if_pos rfl, Array.getElem?_eq_getElem hi']
    · by_cases hmj : m = j
      · subst hmj
        refine ⟨i, h1.1, h1.2, ?_⟩
        rw [Array.getElem?_swap, if_neg (by omega), if_pos rfl, Array.getElem?_eq_getElem hj]
      · refine ⟨m, hl, hh, ?_⟩
        rw [Array.getElem?_swap, if_neg (by omega), if_neg (by omega)]

theorem countP_le_of_tail_false (l : List α) (p : α → Bool) (k : Nat)
    (h : ∀ j (hj : j < l.length), k ≤ j → p l[j] = false) : l.countP p ≤ k := by
  rw [← List.take_append_drop k l, List.countP_append]
  have h0 : (l.drop k).countP p = 0 := by
    rw [List.countP_eq_zero]
    intro x hx
    obtain ⟨j, hj, rfl⟩ := List.mem_iff_getElem.mp hx
    rw [List.length_drop] at hj
    rw [List.getElem_drop, h (k + j) (by omega) (by omega)]
    exact Bool.false_ne_true
  rw [h0, Nat.add_zero]
  exact Nat.le_trans List.countP_le_length (by rw [List.length_take]; omega)

theorem countP_le_of_head_false (l : List α) (p : α → Bool) (k : Nat)
    (h : ∀ i (hi : i < l.length), i < k → p l[i] = false) : l.countP p ≤ l.length - k := by
  rw [← List.take_append_drop k l, List.countP_append]
  have h0 : (l.take k).countP p = 0 := by
    rw [List.countP_eq_zero]
    intro x hx
    obtain ⟨i, hi, rfl⟩ := List.mem_iff_getElem.mp hx
    rw [List.length_take] at hi
    rw [List.getElem_take, h i (by omega) (by omega)]
    exact Bool.false_ne_true
  rw [h0, Nat.zero_add, List.take_append_drop]
  exact Nat.le_trans List.countP_le_length (by rw [List.length_drop]; omega)

variable [LT α] [DecidableLT α]

/-- the Lomuto pass, by its invariant at (i, st): [low, st) is below the pivot value, nothing in [st, i) is -/
theorem partLoop_spec (pv : α) (low hi : Nat) : ∀ (n i st : Nat) (a : Array α),
    hi < a.size → low ≤ st → st ≤ i → i ≤ hi → hi + 1 ≤ n + i →
    (∀ m, low ≤ m → m < st → ∀ x, a[m]? = some x → x < pv) →
    (∀ m, st ≤ m → m < i → ∀ x, a[m]? = some x → ¬ x < pv) →
    ∃ a' st', partLoop pv hi n i st a = .ok (a', st') ∧ low ≤ st' ∧ st' ≤ hi ∧ st ≤ st' ∧
      (∀ m, low ≤ m → m < st' → ∀ x, a'[m]? = some x → x < pv) ∧
      (∀ m, st' ≤ m → m < hi → ∀ x, a'[m]? = some x → ¬ x < pv) ∧
      a'[hi]? = a[hi]? ∧ Rng low (hi - 1) a a' := by
  intro n
  induction n with
  | zero => intro i st a _ _ _ _ h; omega
  | succ n ih =>
    intro i st a hsz hls hsi hih hn hlt hge
    unfold partLoop
    by_cases hc : i < hi
    · rw [if_pos hc, getA_ok a i (by omega)]
      simp only [Outcome.bind]
      by_cases hx : a[i]'(by omega) < pv
      -- a[i] < pv: it is swapped down to st, and st and i both advance
      · rw [if_pos hx, swapA_ok a st i (by omega) (by omega)]
        have hr := Rng.swap low (hi - 1) a st i (by omega) (by omega) (by omega) (by omega)
        obtain ⟨a', st', he, h1, h2, h3, h4, h5, h6, h7⟩ := ih (i + 1) (st + 1) (a.swap st i (by omega) (by omega))
          (by simp; omega) (by omega) (by omega) (by omega) (by omega)
          (by
            intro m hm1 hm2 x hxm
            rcases getElem?_swap_cases _ _ _ _ _ _ _ hxm with ⟨hmi, rfl⟩ | ⟨_, rfl⟩ | ⟨_, _, h⟩
            · -- m = i < st + 1 and st ≤ i force st = i, so the value is a[i] < pv
              have : st = i := by omega
              subst this
              exact hx
            · exact hx
            · exact hlt m hm1 (by omega) x h)
          (by
            intro m hm1 hm2 x hxm
            rcases getElem?_swap_cases _ _ _ _ _ _ _ hxm with ⟨hmi, rfl⟩ | ⟨hms, _⟩ | ⟨_, _, h⟩
            · -- m = i: the value is a[st], which is in [st, i) unless st = i (excluded: m ≥ st+1 and m = i means st < i)
              exact hge st (Nat.le_refl _) (by omega) _ (Array.getElem?_eq_getElem (by omega))
            · omega
            · exact hge m (by omega) (by omega) x h)
        refine ⟨a', st', he, h1, h2, by omega, h4, h5, ?_, hr.trans h7⟩
        rw [h6, Array.getElem?_swap, if_neg (by omega), if_neg (by omega)]
      -- a[i] is not below pv: only i advances, and [st, i + 1) gains a[i]
      · rw [if_neg hx]
        obtain ⟨a', st', he, h1, h2, h3, h4, h5, h6, h7⟩ := ih (i + 1) st a hsz hls (by omega) (by omega) (by omega) hlt
          (by
            intro m hm1 hm2 x hxm
            by_cases hmi : m = i
            · subst hmi
              rw [Array.getElem?_eq_getElem (by omega)] at hxm
              simp only [Option.some.injEq] at hxm; rw [← hxm]; exact hx
            · exact hge m hm1 (by omega) x hxm)
        exact ⟨a', st', he, h1, h2, h3, h4, h5, h6, h7⟩
    -- i = hi: the pass ends, the invariant is the conclusion
    · rw [if_neg hc]
      have : i = hi := by omega
      subst this
      exact ⟨a, st, rfl, hls, hsi, Nat.le_refl _, hlt, hge, rfl, Rng.refl _ _ _⟩

/-- loop invariant of quickselect: k lies in [low, hi]; nothing left of low is larger than anything from low on, and
nothing right of hi is smaller than anything up to hi -/
structure G (k low hi : Nat) (a : Array α) : Prop where
  lk : low ≤ k
  kh : k ≤ hi
  sz : hi < a.size
  left : ∀ i j x y, i < low → low ≤ j → a[i]? = some x → a[j]? = some y → ¬ y < x
  right : ∀ i j x y, i ≤ hi → hi < j → a[i]? = some x → a[j]? = some y → ¬ y < x

def Flag (low hi : Nat) (a : Array α) : Prop := ∀ m x y, low ≤ m → m < hi → a[m]? = some x → a[hi]? = some y → x < y

omit [DecidableLT α] in
theorem G.rearrange {k low hi : Nat} {a b : Array α} (g : G k low hi a) (r : Rng low hi a b) : G k low hi b := by
  refine ⟨g.lk, g.kh, by rw [r.size]; exact g.sz, ?_, ?_⟩
  · intro i j x y hi1 hj1 hx hy
    rw [r.out i (by omega)] at hx
    by_cases hjh : j ≤ hi
    · obtain ⟨m', c1, _, e⟩ := r.fwd j hj1 hjh
      exact g.left i m' x y hi1 c1 hx (e ▸ hy)
    · rw [r.out j (by omega)] at hy
      exact g.left i j x y hi1 hj1 hx hy
  · intro i j x y hi1 hj1 hx hy
    rw [r.out j (by omega)] at hy
    by_cases hil : low ≤ i
    · obtain ⟨m', _, c2, e⟩ := r.fwd i hil hi1
      exact g.right m' j x y c2 hj1 (e ▸ hx) hy
    · rw [r.out i (by omega)] at hx
      exact g.right i j x y hi1 hj1 hx hy

omit [DecidableLT α] in
theorem G.narrow {k low hi st : Nat} {a : Array α} (g : G k low hi a) (h1 : low ≤ st) (h2 : st ≤ hi)
    (hc : ∀ i j x y, low ≤ i → i ≤ st → st < j → j ≤ hi → a[i]? = some x → a[j]? = some y → ¬ y < x) :
    (k ≤ st → G k low st a) ∧ (st < k → G k (st + 1) hi a) := by
  have hsz := g.sz
  have cross : ∀ i j x y, i ≤ st → st < j → a[i]? = some x → a[j]? = some y → ¬ y < x := by
    intro i j x y hi1 hj1 hx hy
    by_cases hjh : j ≤ hi
    · by_cases hil : low ≤ i
      · exact hc i j x y hil hi1 hj1 hjh hx hy
      · exact g.left i j x y (by omega) (by omega) hx hy
    · exact g.right i j x y (by omega) (by omega) hx hy
  exact ⟨fun hk => ⟨g.lk, hk, by omega, g.left, cross⟩,
    fun hk => ⟨hk, g.kh, hsz, fun i j x y a1 a2 => cross i j x y (by omega) (by omega), g.right⟩⟩

theorem round_spec (sw : StrictWeak α) (low hi : Nat) (a : Array α) (hlh : low < hi) (hsz : hi < a.size) :
    ∃ pv a1 a2 st a3, getA a (low / 2 + hi / 2) = .ok pv ∧ swapA a (low / 2 + hi / 2) hi = .ok a1 ∧
      partLoop pv hi (hi - low + 1) low low a1 = .ok (a2, st) ∧ swapA a2 hi st = .ok a3 ∧
      low ≤ st ∧ st ≤ hi ∧ Rng low hi a a3 ∧
      (∀ i j x y, low ≤ i → i ≤ st → st < j → j ≤ hi → a3[i]? = some x → a3[j]? = some y → ¬ y < x) ∧
      (st = hi → Flag low hi a3) ∧ (Flag low hi a → st < hi) := by
  have hp1 : low ≤ low / 2 + hi / 2 := by omega
  have hp2 : low / 2 + hi / 2 < hi := by omega
  generalize low / 2 + hi / 2 = pivot at hp1 hp2
  generalize hpv : a[pivot]'(by omega) = pv
  -- the pivot value goes to hi, out of the way of the pass
  generalize ha1 : a.swap pivot hi (by omega) (by omega) = a1
  have hr1 : Rng low hi a a1 := by rw [← ha1]; exact Rng.swap low hi a pivot hi (by omega) (by omega) (by omega) (by omega)
  have h1hi : a1[hi]? = some pv := by
    rw [← ha1, Array.getElem?_swap, if_pos rfl, hpv]
  have h1pv : a1[pivot]? = a[hi]? := by
    rw [← ha1, Array.getElem?_swap, if_neg (by omega), if_pos rfl, Array.getElem?_eq_getElem (by omega)]
  have hs1 : a1.size = a.size := hr1.size
  -- the Lomuto pass over [low, hi), entered with both parts empty
  obtain ⟨a2, st, hpl, hst1, hst2, _, h2lt, h2ge, h2hi, hr2⟩ := partLoop_spec pv low hi (hi - low + 1) low low a1
    (by omega) (Nat.le_refl _) (Nat.le_refl _) (by omega) (by omega) (by intro m h1 h2; omega) (by intro m h1 h2; omega)
  have hs2 : a2.size = a1.size := hr2.size
  -- the pivot value comes back to st: [low, st) is below it, nothing in (st, hi] is
  generalize ha3 : a2.swap hi st (by omega) (by omega) = a3
  have hr3 : Rng low hi a2 a3 := by rw [← ha3]; exact Rng.swap low hi a2 hi st (by omega) (by omega) (by omega) (by omega)
  have h3pv : a3[st]? = some pv := by
    rw [← ha3, Array.getElem?_swap, if_pos rfl, ← h1hi, ← h2hi, Array.getElem?_eq_getElem (by omega)]
  have h3lt : ∀ m, low ≤ m → m < st → ∀ x, a3[m]? = some x → x < pv := by
    intro m h1 h2 x hx
    rw [← ha3, Array.getElem?_swap, if_neg (by omega), if_neg (by omega)] at hx
    exact h2lt m h1 h2 x hx
  have h3ge : ∀ m, st < m → m ≤ hi → ∀ x, a3[m]? = some x → ¬ x < pv := by
    intro m h1 h2 x hx
    rw [← ha3] at hx
    rcases getElem?_swap_cases _ _ _ _ _ _ _ hx with ⟨hms, _⟩ | ⟨_, rfl⟩ | ⟨_, _, h⟩
    · omega
    · exact h2ge st (Nat.le_refl _) (by omega) _ (Array.getElem?_eq_getElem (by omega))
    · exact h2ge m (by omega) (by omega) x h
  refine ⟨pv, a1, a2, st, a3, by rw [getA_ok a pivot (by omega), hpv], by rw [swapA_ok a pivot hi (by omega) (by omega), ha1],
    hpl, by rw [swapA_ok a2 hi st (by omega) (by omega), ha3], hst1, hst2,
    (hr1.trans (hr2.mono (Nat.le_refl _) (by omega))).trans hr3, ?_, ?_, ?_⟩
  · intro i j x y hi1 hi2 hj1 hj2 hx hy
    have hyp := h3ge j hj1 hj2 y hy
    by_cases his : i = st
    · subst his; rw [h3pv] at hx; simp only [Option.some.injEq] at hx; rw [← hx]; exact hyp
    · have hxp := h3lt i hi1 (by omega) x hx
      intro hyx; exact hyp (sw.trans _ _ _ hyx hxp)
  · -- a stalled round (st = hi) has put the pivot value, above all of [low, hi), at hi
    intro hse m x y h1 h2 hx hy
    subst hse
    rw [h3pv] at hy; simp only [Option.some.injEq] at hy; rw [← hy]
    exact h3lt m h1 h2 x hx
  · -- starting with the strict maximum at hi, the pass cannot stall
    intro hf
    refine Nat.lt_of_le_of_ne hst2 fun hse => ?_
    subst hse
    have hM : a[st]? = some (a[st]'(by omega)) := Array.getElem?_eq_getElem (by omega)
    have hlt : pv < a[st]'(by omega) := by
      rw [← hpv]; exact hf pivot _ _ hp1 hp2 (Array.getElem?_eq_getElem (by omega)) hM
    obtain ⟨m', c1, c2, e⟩ := hr2.bwd pivot hp1 (by omega)
    have : a2[m']? = some (a[st]'(by omega)) := by rw [← e, h1pv, hM]
    exact sw.asymm _ _ hlt (h2lt m' c1 (by omega) _ this)

/-- **quickselect**: from `G k low hi a` and fuel for `2·(hi-low)+1` rounds (one less when `hi` already holds the strict
maximum of the range, `Flag`, which a stalled round produces) `qselLoop` returns without panic or `.fuel`; every round
rearranges inside the range only (`Rng`), so the result is a permutation of `a`, with `G k k k`: nothing left of `k` larger
than the element at `k`, nothing right of it smaller. -/
theorem qsel_spec (sw : StrictWeak α) (k : Nat) : ∀ (fuel low hi : Nat) (a : Array α), G k low hi a →
    (2 * (hi - low) + 1 < fuel ∨ (Flag low hi a ∧ 2 * (hi - low) < fuel)) →
    ∃ a', qselLoop k fuel low hi a = .ok a' ∧ a'.Perm a ∧ G k k k a' := by
  intro fuel
  induction fuel with
  | zero => intro low hi a _ h; rcases h with h | h <;> omega
  | succ fuel ih =>
    intro low hi a g hf
    unfold qselLoop
    by_cases hlh : low < hi
    · rw [if_pos hlh]
      obtain ⟨pv, a1, a2, st, a3, e1, e2, e3, e4, hst1, hst2, hr, hcross, hstall, hflag⟩ := round_spec sw low hi a hlh g.sz
      simp only [e1, e2, e3, e4, Outcome.bind]
      obtain ⟨gl, gr⟩ := (g.rearrange hr).narrow hst1 hst2 hcross
      by_cases hks : k ≤ st
      · rw [if_pos hks]
        -- a stalled round (st = hi) pays its unit of fuel with `Flag`; a round from `Flag` shrinks the range
        have hfuel : 2 * (st - low) + 1 < fuel ∨ (Flag low st a3 ∧ 2 * (st - low) < fuel) := by
          rcases hf with hf | hf
          · by_cases hsh : st = hi
            · subst hsh
              exact Or.inr ⟨hstall rfl, by omega⟩
            · left; omega
          · have := hflag hf.1
            left; omega
        obtain ⟨a', he, hperm, gk⟩ := ih low st a3 (gl hks) hfuel
        exact ⟨a', he, hperm.trans hr.perm, gk⟩
      · rw [if_neg hks]
        have hfuel : 2 * (hi - (st + 1)) + 1 < fuel ∨ (Flag (st + 1) hi a3 ∧ 2 * (hi - (st + 1)) < fuel) := by
          left; rcases hf with hf | hf <;> omega
        obtain ⟨a', he, hperm, gk⟩ := ih (st + 1) hi a3 (gr (by omega)) hfuel
        exact ⟨a', he, hperm.trans hr.perm, gk⟩
    · rw [if_neg hlh]
      have h1 := g.lk; have h2 := g.kh
      have e1 : low = k := by omega
      have e2 : hi = k := by omega
      subst e1; subst e2
      exact ⟨a, rfl, Array.Perm.refl _, g⟩

/-- positional facts give the two counts that characterise the k-th order statistic -/
theorem counts_of_G (sw : StrictWeak α) (k : Nat) (a : Array α) (y : α) (g : G k k k a) (hy : a[k]? = some y) :
    a.toList.countP (fun x => decide (x < y)) ≤ k ∧ a.toList.countP (fun x => decide (y < x)) ≤ a.size - 1 - k := by
  have hirr : ¬ y < y := fun h => sw.asymm y y h h
  have hget : ∀ m (hm : m < a.toList.length), a[m]? = some a.toList[m] := by
    intro m hm; rw [Array.getElem?_eq_getElem (by simpa using hm)]; simp
  constructor
  · refine countP_le_of_tail_false _ _ k fun j hj hkj => decide_eq_false ?_
    by_cases hjk : j = k
    · subst hjk
      rw [Option.some.inj ((hget j hj).symm.trans hy)]
      exact hirr
    · exact g.right k j y _ (Nat.le_refl _) (by omega) hy (hget j hj)
  · rw [Nat.sub_sub, ← Array.length_toList]
    refine countP_le_of_head_false _ _ (1 + k) fun i hi hik => decide_eq_false ?_
    by_cases hik' : i = k
    · subst hik'
      rw [Option.some.inj ((hget i hi).symm.trans hy)]
      exact hirr
    · exact g.left i k _ y (by omega) (Nat.le_refl _) (hget i hi) hy

end
end Imeta.Hash
