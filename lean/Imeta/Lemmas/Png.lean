/-
  The PNG chunk walk: no panic outcome; len/8 + 2 rounds are enough; at most len + 16 bytes are asked of the source; and what
  one round does on a chunk header standing at the position (`chunks_step`, `chunks_exif`).
-/
import Imeta.Model.PngReq
namespace Imeta.Png
open Imeta

theorem chunks_np (b : Bytes) (f pos : Nat) : (chunks b f pos).isPanic = false := by
  induction f generalizing pos with
  | zero => rfl
  | succ k ih =>
    unfold chunks
    split
    · rfl
    · split
      · split
        · rfl
        · dsimp only; split <;> rfl
      · exact ih _

/-- every iteration consumes the 8-byte chunk header, so `len/8 + 2` iterations suffice -/
theorem chunks_fuel (b : Bytes) (f pos : Nat) (h : b.length < pos + 8 * f) : (chunks b (f + 1) pos).isFuel = false := by
  induction f generalizing pos with
  | zero =>
    unfold chunks read8
    rw [if_neg (by omega)]; rfl
  | succ k ih =>
    unfold chunks
    split
    · rfl
    · split
      · split
        · rfl
        · dsimp only; split <;> rfl
      · exact ih _ (by omega)

theorem failReq_le (b : Bytes) (pos : Nat) : failReq b pos ≤ 16 := by
  unfold failReq; split <;> omega

theorem chunksReq_le (b : Bytes) : ∀ (f pos : Nat), chunksReq b f pos ≤ (b.length - pos) + 16 := by
  intro f
  induction f with
  | zero => intro pos; simp [chunksReq]
  | succ f ih =>
    intro pos
    unfold chunksReq
    cases h8 : read8 b pos with
    | none => simp only; have := failReq_le b pos; omega
    | some h =>
      have hp : pos + 8 ≤ b.length := Decidable.by_contra fun hn => by rw [read8, if_neg hn] at h8; cases h8
      simp only
      split
      · cases h16 : read8 b (pos + 8) with
        | none => simp only; have := failReq_le b (pos + 8); omega
        | some _ => simp only; omega
      · have := ih (pos + 8 + (beNat (h.take 4) + 4) % 2 ^ 32)
        omega

theorem read8_of_drop {b x rest : Bytes} {pos : Nat} (h : b.drop pos = x ++ rest) (hx : x.length = 8) : read8 b pos = some x := by
  have := congrArg List.length h
  simp only [List.length_drop, List.length_append] at this
  unfold read8
  rw [if_pos (by omega), h, List.take_left' hx]

theorem chunks_step (b typ rest : Bytes) (len f pos : Nat) (h : b.drop pos = (beBytes 4 len ++ typ) ++ rest)
    (ht : typ.length = 4) (hne : typ ≠ eXIf) (hlen : len + 4 < 2 ^ 32) :
    chunks b (f + 1) pos = chunks b f (pos + 8 + (len + 4)) := by
  rw [chunks, read8_of_drop h (by simp [beBytes_length, ht])]
  simp only [List.take_left' (beBytes_length 4 _), List.drop_left' (beBytes_length 4 _), beNat_beBytes,
    beq_eq_false_iff_ne.mpr hne, Bool.false_eq_true, if_false]
  rw [Nat.mod_eq_of_lt (show len < 256 ^ 4 by omega), Nat.mod_eq_of_lt hlen]

theorem chunks_exif (b th rest : Bytes) (len f pos : Nat) (h : b.drop pos = (beBytes 4 len ++ eXIf) ++ (th ++ rest))
    (hth : th.length = 8) (hlen : len < 2 ^ 32) (hord : Tiff.binaryOrder th ≠ .unknown) :
    chunks b (f + 1) pos =
      .ok { order := Tiff.binaryOrder th, firstIfd := (Tiff.binaryOrder th).uint ((th.drop 4).take 4),
            tiffOffset := (pos + 8) % 2 ^ 32, exifLength := len } := by
  have hl : (beBytes 4 len ++ eXIf).length = 8 := by simp [beBytes_length, eXIf]
  rw [chunks, read8_of_drop h hl]
  simp only [List.take_left' (beBytes_length 4 _), List.drop_left' (beBytes_length 4 _), beNat_beBytes, BEq.rfl, if_true]
  rw [read8_of_drop (field_at h hl).2 hth, Nat.mod_eq_of_lt (show len < 256 ^ 4 by omega)]
  simp only [show (Tiff.binaryOrder th == ByteOrder.unknown) = false by simpa using hord, Bool.false_eq_true, if_false]

end Imeta.Png
