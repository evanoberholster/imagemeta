import Lean.Meta.Tactic.Simp.RegisterCommand

/-- evaluating the field-parser layer `parseTagV` at a known (directory, tag id) and projecting a field of the result
(Lemmas/ExifField) -/
register_simp_attr field_eval
