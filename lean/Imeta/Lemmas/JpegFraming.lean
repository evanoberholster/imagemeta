/-
  `step` at a marker (the dispatch on the marker byte, `step_at_marker`); from it, one step over one well-formed segment
  (`step_seg`) and the run over a list of them (`run_segments`), for C10.
-/
import Imeta.Lemmas.Jpeg
import Imeta.Spec.Jpeg
namespace Imeta.Jpeg
open Imeta

/-- `step` at a marker: `s` starts `0xFF mk hi lo` and holds the 64 bytes `nextMarker` peeks (jpeg/jpeg.go:142; 60 = 64 − the four
bytes named).  What is left of the definition is the dispatch on the marker byte. -/
theorem step_at_marker (cb : Cbs) (s : St) (mk hi lo : UInt8) (tl : Bytes) (hr : s.rest = 0xFF :: mk :: hi :: lo :: tl)
    (h60 : 60 ≤ tl.length) :
    step cb s =
      if mk == 0xFF then finish (discard s 1) []
      else if mk == 0xD8 then finish (discard { s with pos := (s.pos + 1) % 256 } 2) []
      else if s.pos = 0 then finish (discard s 1) []
      else if mk.toNat / 16 = 12 then finish (discard s ((hi.toNat * 256 + lo.toNat : Nat) + 2)) []
      else if mk.toNat / 16 = 14 then
        if mk == 0xE1 then
          if tl.take 6 == exifPrefix then readExif cb s (hi.toNat * 256 + lo.toNat)
          else if tl.take 29 == xmpPrefix then readXMP cb s (hi.toNat * 256 + lo.toNat)
          else finish (discard s ((hi.toNat * 256 + lo.toNat : Nat) + 2)) []
        else finish (discard s ((hi.toNat * 256 + lo.toNat : Nat) + 2)) []
      else if mk == 0xD9 then
        if (s.pos + 255) % 256 = 1 then .done .endOfImage []
        else finish (discard { s with pos := (s.pos + 255) % 256 } 2) []
      else if mk == 0xDB then .done .ok []
      else if mk == 0xDD then finish (discard s 6) []
      else finish (discard s ((hi.toNat * 256 + lo.toNat : Nat) + 2)) [] := by
  unfold step
  rw [if_neg (by rw [hr]; simp only [List.length_cons]; omega), hr]
  -- the match on the four leading bytes and `drop 4` compute; the first test of the body is `0xFF != 0xFF`
  exact if_neg (by decide)

theorem be16_size (n : Nat) (h : n < 65536) :
    (UInt8.ofNat (n / 256)).toNat * 256 + (UInt8.ofNat (n % 256)).toNat = n := by
  have h1 : n / 256 < 256 := by omega
  have h2 : n % 256 < 256 := by omega
  simp only [UInt8.toNat_ofNat', Nat.mod_eq_of_lt h1, Nat.mod_eq_of_lt h2]
  omega

/-- also for the empty prefix: `discard 0` does nothing -/
theorem discard_prefix (pre r : Bytes) (d pos : Nat) (n : Nat) (hn : n = pre.length) (hd : d + n < 2 ^ 32) :
    discard { rest := pre ++ r, discarded := d, pos := pos } (n : Int) =
      ({ rest := r, discarded := d + n, pos := pos }, none) := by
  subst hn
  by_cases h0 : pre.length = 0
  · rw [List.eq_nil_of_length_eq_zero h0]; rfl
  · rw [discard_ok _ _ (by omega) (by simp)]; simp [Nat.mod_eq_of_lt hd]

theorem step_skip (cb : Cbs) (mk : UInt8) (p r : Bytes) (d : Nat)
    (hwf : (Seg.skip mk p).wf) (hr : 64 ≤ r.length) (hd : d + (Seg.skip mk p).encode.length < 2 ^ 32) :
    step cb { rest := (Seg.skip mk p).encode ++ r, discarded := d, pos := 1 } =
      .next { rest := r, discarded := d + (Seg.skip mk p).encode.length, pos := 1 } [] := by
  obtain ⟨hlen, h1, h2, h3, h4, h5, h6⟩ := hwf
  have henc : (Seg.skip mk p).encode.length = p.length + 4 := by simp [Seg.encode, be16]
  have hdisc := discard_prefix ((Seg.skip mk p).encode) r d 1 (p.length + 4) henc.symm (by omega)
  rw [henc, step_at_marker cb _ mk (UInt8.ofNat ((p.length + 2) / 256)) (UInt8.ofNat ((p.length + 2) % 256)) (p ++ r)
      (by simp [Seg.encode, be16]) (by simp only [List.length_append]; omega),
    be16_size (p.length + 2) hlen, show (((p.length + 2 : Nat) : Int) + 2) = ((p.length + 4 : Nat) : Int) by omega, hdisc]
  simp only [beq_eq_false_iff_ne.mpr h6, beq_eq_false_iff_ne.mpr h1, beq_eq_false_iff_ne.mpr h2, beq_eq_false_iff_ne.mpr h3,
    beq_eq_false_iff_ne.mpr h4, Bool.false_eq_true, if_false, show ¬ (1 : Nat) = 0 by decide]
  -- every remaining branch but the two metadata prefixes of APP1 skips the segment by its length
  by_cases hE1 : mk = 0xE1
  · obtain ⟨h29, hpe, hpx⟩ := h5 hE1
    subst hE1
    rw [List.take_append_of_le_length (by omega), List.take_append_of_le_length (by omega)]
    simp +decide only [↓reduceIte, beq_eq_false_iff_ne.mpr hpe, beq_eq_false_iff_ne.mpr hpx, Bool.false_eq_true]
    rfl
  · simp only [beq_eq_false_iff_ne.mpr hE1, Bool.false_eq_true, if_false, ite_self]
    rfl

theorem step_dri (cb : Cbs) (a b : UInt8) (r : Bytes) (d : Nat)
    (hr : 64 ≤ r.length) (hd : d + 6 < 2 ^ 32) :
    step cb { rest := (Seg.dri a b).encode ++ r, discarded := d, pos := 1 } =
      .next { rest := r, discarded := d + 6, pos := 1 } [] := by
  rw [step_at_marker cb _ 0xDD 0 4 (a :: b :: r) rfl (by simp only [List.length_cons]; omega)]
  simp +decide only [↓reduceIte]
  exact congrArg (finish · []) (discard_prefix [0xFF, 0xDD, 0, 4, a, b] r d 1 6 rfl hd)

theorem readExif_segment (cb : Cbs) (hcb : cb.wellBehaved) (pre t r : Bytes) (d pos : Nat) (hpre : pre.length = 10)
    (h8 : 8 ≤ t.length) (hd : d + (t.length + 10) < 2 ^ 32) :
    readExif cb { rest := pre ++ (t ++ r), discarded := d, pos := pos } (t.length + 8) =
      .next { rest := r, discarded := d + (t.length + 10), pos := pos } ((Seg.exif t).events cb d) := by
  unfold readExif
  rw [show (10 : Int) = ((10 : Nat) : Int) from rfl, discard_prefix pre (t ++ r) d pos 10 hpre.symm (by omega)]
  dsimp only
  rw [if_neg (by simp only [List.length_append]; omega)]
  have hrem : ((t.length + 8 : Nat) : Int) - 8 = ((t.length : Nat) : Int) := by omega
  have hmod : ((t.length : Nat) : Int) % 2 ^ 32 = ((t.length : Nat) : Int) := by omega
  rw [hrem]
  have htake8 : List.take 8 (t ++ r) = t.take 8 := List.take_append_of_le_length h8
  cases he : cb.hasExif with
  | true =>
    simp only [if_true, hmod, Int.toNat_natCast, htake8, hcb.1, Seg.events, he]
    have hview : List.take t.length (t ++ r) = t := List.take_left' rfl
    have hmin : min t.length (t ++ r).length = t.length := by simp
    have hdrop : List.drop t.length (t ++ r) = r := List.drop_left' rfl
    have hfld : ((t.take 8).drop 4).take 4 = (t.drop 4).take 4 := by rw [List.drop_take, List.take_take]; rfl
    simp only [hview, hmin, hdrop, Bool.false_eq_true, if_false, hfld]
    rw [Nat.mod_eq_of_lt (by omega)]
    simp [Nat.add_assoc, Nat.add_comm 10]
  | false =>
    simp only [Bool.false_eq_true, if_false, Seg.events, he]
    rw [discard_prefix t r (d + 10) pos t.length rfl (by omega)]
    simp [finish, Nat.add_assoc, Nat.add_comm 10]

theorem step_exif (cb : Cbs) (t r : Bytes) (d : Nat) (hcb : cb.wellBehaved)
    (hwf : (Seg.exif t).wf) (hr : 64 ≤ r.length) (hd : d + (Seg.exif t).encode.length < 2 ^ 32) :
    step cb { rest := (Seg.exif t).encode ++ r, discarded := d, pos := 1 } =
      .next { rest := r, discarded := d + (Seg.exif t).encode.length, pos := 1 } ((Seg.exif t).events cb d) := by
  obtain ⟨h8, hlen⟩ := hwf
  have henc : (Seg.exif t).encode.length = t.length + 10 := by simp [Seg.encode, be16, exifPrefix]
  rw [henc] at hd ⊢
  rw [step_at_marker cb _ 0xE1 (UInt8.ofNat ((t.length + 8) / 256)) (UInt8.ofNat ((t.length + 8) % 256)) (exifPrefix ++ (t ++ r))
      (by simp [Seg.encode, be16]) (by simp only [List.length_append]; omega), be16_size (t.length + 8) hlen]
  simp +decide only [↓reduceIte, List.take_left' (show exifPrefix.length = 6 from rfl), BEq.rfl]
  exact readExif_segment cb hcb [0xFF, 0xE1, UInt8.ofNat ((t.length + 8) / 256), UInt8.ofNat ((t.length + 8) % 256),
    0x45, 0x78, 0x69, 0x66, 0, 0] t r d 1 rfl h8 hd

theorem xmpPrefix_length : xmpPrefix.length = 29 := rfl

theorem readXMP_segment (cb : Cbs) (hcb : cb.wellBehaved) (pre k r : Bytes) (d pos : Nat) (hpre : pre.length = 33)
    (hd : d + (k.length + 33) < 2 ^ 32) :
    readXMP cb { rest := pre ++ (k ++ r), discarded := d, pos := pos } (k.length + 31) =
      .next { rest := r, discarded := d + (k.length + 33), pos := pos } ((Seg.xmp k).events cb d) := by
  unfold readXMP
  rw [show (33 : Int) = ((33 : Nat) : Int) from rfl, discard_prefix pre (k ++ r) d pos 33 hpre.symm (by omega)]
  dsimp only
  have hrem : ((k.length + 31 : Nat) : Int) - 2 - 29 = ((k.length : Nat) : Int) := by omega
  rw [hrem]
  cases hx : cb.hasXmp with
  | true =>
    simp only [if_true, Int.toNat_natCast, Seg.events, hx, List.take_left' rfl, hcb.2, Bool.false_eq_true, if_false]
    -- the callback took `c` bytes of the packet; what the LimitedReader has left is discarded
    generalize hc : min (cb.xmp k).1 k.length = c
    have hcle : c ≤ k.length := by rw [← hc]; exact Nat.min_le_right _ _
    have hleft : (if (k.length : Int) ≤ 0 then (k.length : Int) else (k.length : Int) - c) = ((k.length - c : Nat) : Int) := by
      split <;> omega
    rw [hleft, List.drop_append_of_le_length hcle, Nat.mod_eq_of_lt (by omega),
      discard_prefix (k.drop c) r (d + 33 + c) pos (k.length - c) (by simp) (by omega)]
    dsimp only
    congr 2
    omega
  | false =>
    simp only [Bool.false_eq_true, if_false, Seg.events, hx]
    rw [discard_prefix k r (d + 33) pos k.length rfl (by omega)]
    simp [finish, Nat.add_assoc, Nat.add_comm 33]

theorem step_xmp (cb : Cbs) (k r : Bytes) (d : Nat) (hcb : cb.wellBehaved)
    (hwf : (Seg.xmp k).wf) (hr : 64 ≤ r.length) (hd : d + (Seg.xmp k).encode.length < 2 ^ 32) :
    step cb { rest := (Seg.xmp k).encode ++ r, discarded := d, pos := 1 } =
      .next { rest := r, discarded := d + (Seg.xmp k).encode.length, pos := 1 } ((Seg.xmp k).events cb d) := by
  have hlen : k.length + 31 < 65536 := hwf
  have henc : (Seg.xmp k).encode.length = k.length + 33 := by simp [Seg.encode, be16, xmpPrefix_length]; omega
  rw [henc] at hd ⊢
  rw [step_at_marker cb _ 0xE1 (UInt8.ofNat ((k.length + 31) / 256)) (UInt8.ofNat ((k.length + 31) % 256)) (xmpPrefix ++ (k ++ r))
      (by simp [Seg.encode, be16]) (by simp only [List.length_append, xmpPrefix_length]; omega), be16_size (k.length + 31) hlen]
  have t6 : (List.take 6 (xmpPrefix ++ (k ++ r)) == exifPrefix) = false := by
    rw [List.take_append_of_le_length (by decide)]; decide
  simp +decide only [↓reduceIte, t6, List.take_left' xmpPrefix_length, BEq.rfl, Bool.false_eq_true]
  exact readXMP_segment cb hcb (0xFF :: 0xE1 :: UInt8.ofNat ((k.length + 31) / 256) :: UInt8.ofNat ((k.length + 31) % 256) :: xmpPrefix)
    k r d 1 (by simp [xmpPrefix_length]) hd

theorem step_soi (cb : Cbs) (r : Bytes) (d pos : Nat) (hr : 62 ≤ r.length) (hd : d + 2 < 2 ^ 32) :
    step cb { rest := 0xFF :: 0xD8 :: r, discarded := d, pos := pos } =
      .next { rest := r, discarded := d + 2, pos := (pos + 1) % 256 } [] := by
  match r, hr with
  | x :: y :: t, hr =>
    rw [step_at_marker cb _ 0xD8 x y t rfl (by simp only [List.length_cons] at hr; omega)]
    simp +decide only [↓reduceIte]
    exact congrArg (finish · []) (discard_prefix [0xFF, 0xD8] (x :: y :: t) d _ 2 rfl hd)

/-- This lemma and the four it dispatches to are stated at depth `pos := 1`, inside the one image that `C10_scan_calls` opens with
its SOI. -/
theorem step_seg (cb : Cbs) (hcb : cb.wellBehaved) (sg : Seg) (r : Bytes) (d : Nat)
    (hwf : sg.wf) (hr : 64 ≤ r.length) (hd : d + sg.encode.length < 2 ^ 32) :
    step cb { rest := sg.encode ++ r, discarded := d, pos := 1 } =
      .next { rest := r, discarded := d + sg.encode.length, pos := 1 } (sg.events cb d) := by
  cases sg with
  | skip mk p => exact step_skip cb mk p r d hwf hr hd
  | dri a b => exact step_dri cb a b r d hr hd
  | exif t => exact step_exif cb t r d hcb hwf hr hd
  | xmp k => exact step_xmp cb k r d hcb hwf hr hd

theorem run_succ (cb : Cbs) (f : Nat) (s : St) (acc : List Ev) :
    run cb (f + 1) s acc = match step cb s with
      | .done r evs => some (r, acc ++ evs)
      | .next s' evs => run cb f s' (acc ++ evs) := rfl

theorem run_mono (cb : Cbs) (f f' : Nat) (s : St) (acc : List Ev) (x : Res × List Ev)
    (h : run cb f s acc = some x) (hle : f ≤ f') : run cb f' s acc = some x := by
  induction f generalizing f' s acc with
  | zero => simp [run] at h
  | succ f ih =>
    obtain ⟨g, rfl⟩ : ∃ g, f' = g + 1 := ⟨f' - 1, by omega⟩
    rw [run_succ] at h ⊢
    cases hs : step cb s with
    | done r evs => rw [hs] at h; exact h
    | next s' evs => rw [hs] at h; exact ih g s' _ h (by omega)

theorem encodeAll_length_cons (s : Seg) (t : List Seg) :
    (encodeAll (s :: t)).length = s.encode.length + (encodeAll t).length := by simp [encodeAll]

/-- **Any sequence of well-formed segments** (induction over the sequence, invariant: "rest = encoding of the
remaining segments ++ tail ∧ discarded = absolute offset ∧ depth 1"): after `segs.length` steps the scanner
stands at `tail` having made exactly the expected calls. -/
theorem run_segments (cb : Cbs) (hcb : cb.wellBehaved) (segs : List Seg) (tail : Bytes) (d fuel : Nat) (acc : List Ev)
    (hwf : ∀ s ∈ segs, s.wf) (ht : 64 ≤ tail.length) (hd : d + (encodeAll segs).length < 2 ^ 32) :
    run cb (segs.length + fuel) { rest := encodeAll segs ++ tail, discarded := d, pos := 1 } acc =
      run cb fuel { rest := tail, discarded := d + (encodeAll segs).length, pos := 1 } (acc ++ eventsAll cb d segs) := by
  induction segs generalizing d acc with
  | nil => simp [encodeAll, eventsAll]
  | cons s t ih =>
    have hs : s.wf := hwf s (by simp)
    have hlen := encodeAll_length_cons s t
    have hstep := step_seg cb hcb s (encodeAll t ++ tail) d hs (by simp; omega) (by omega)
    have e : (s :: t).length + fuel = (t.length + fuel) + 1 := by simp; omega
    rw [e, run_succ]
    simp only [encodeAll, List.append_assoc, hstep]
    rw [ih (d + s.encode.length) (acc ++ s.events cb d) (fun x hx => hwf x (by simp [hx])) (by omega)]
    simp only [eventsAll, List.append_assoc, List.length_append, Nat.add_assoc]

end Imeta.Jpeg
