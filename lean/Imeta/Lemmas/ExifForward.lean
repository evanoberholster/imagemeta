/-
  The random-access decoder (`idealStep`, `idealRun`) and the invariant that the streaming reader has so far done what that
  decoder does (`Exact`).  One value tag read forward keeps it (`parseTag_forward`), an embedded tag that gives no reason to
  read keeps it (`parseTag_quiet_exact`); hence the work loop over value tags laid out forward reads every value exactly
  (`ifdLoop_forward`).
-/
import Imeta.Lemmas.ExifValue
namespace Imeta.Exif
open Imeta

def idealStep (tb : Tables) (F : Bytes) (ex : Rec) (t : Tag) : Outcome Rec := parseTagV tb ex t (slice F t) none

def idealRun (tb : Tables) (F : Bytes) : Rec → List Tag → Outcome Rec
  | ex, [] => .ok ex
  | ex, t :: ts => idealStep tb F ex t >>= fun ex' => idealRun tb F ex' ts

theorem idealRun_append (tb : Tables) (F : Bytes) (ex : Rec) (l l' : List Tag) :
    idealRun tb F ex (l ++ l') = idealRun tb F ex l >>= fun e => idealRun tb F e l' := by
  induction l generalizing ex with
  | nil => rfl
  | cons a l ih =>
    show (idealStep tb F ex a >>= fun e => idealRun tb F e (l ++ l')) =
      ((idealStep tb F ex a >>= fun e => idealRun tb F e l) >>= fun e => idealRun tb F e l')
    cases idealStep tb F ex a with
    | ok e => exact ih e
    | err k => rfl
    | panic p => rfl
    | fuel => rfl

/-- **Streaming = random access, so far.**  Every read recorded so far succeeded and returned exactly the bytes of its
tag's value in F, and the record so far is what the random-access decoder makes of the tags parsed so far (from the
initial record ex0, each tag with exactly its own bytes) -/
structure Exact (tb : Tables) (ex0 : Rec) (F : Bytes) (r : R) : Prop where
  reads : ∀ e ∈ r.reads, e.2 = some (slice F e.1)
  ref : idealRun tb F ex0 r.parsed = .ok r.ex

theorem Exact.transfer {tb : Tables} {ex0 : Rec} {F : Bytes} {r r' : R} (he : Exact tb ex0 F r) (h1 : r'.reads = r.reads)
    (h2 : r'.ex = r.ex) (h3 : r'.parsed = r.parsed) : Exact tb ex0 F r' :=
  ⟨by rw [h1]; exact he.reads, by rw [h2, h3]; exact he.ref⟩

theorem Exact.keep {tb : Tables} {ex0 : Rec} {F : Bytes} {r r' : R} (he : Exact tb ex0 F r) (hk : Keep r r') : Exact tb ex0 F r' :=
  he.transfer hk.reads hk.ex hk.parsed

theorem Exact.init (tb : Tables) (F : Bytes) (r : R) (h1 : r.reads = []) (h2 : r.parsed = []) : Exact tb r.ex F r :=
  ⟨(by rw [h1]; intro e he; cases he), (by rw [h2]; rfl)⟩

theorem parse_step {tb : Tables} {ex0 : Rec} {F : Bytes} {r r1 : R} {t : Tag} (he : Exact tb ex0 F r)
    (h : parseTag tb r t = .ok r1)
    (hv : parseTagV tb r.ex t (readTagValue r t).buf (readTagValue r t).err = parseTagV tb r.ex t (slice F t) none) :
    idealRun tb F ex0 r1.parsed = .ok r1.ex := by
  have hval := parseTag_value tb r t
  rw [h, omap_ok, hv] at hval
  rw [parseTag_parsed h, idealRun_append, he.ref]
  exact (Outcome.bind_pure _).trans hval.symm

theorem parseTag_forward {F : Bytes} {ex0 : Rec} (tb : Tables) (r r1 : R) (t : Tag) (hc : Coh F r) (he : Exact tb ex0 F r)
    (hfw : r.po ≤ t.off) (hF : t.off + t.size ≤ F.length) (hx : t.off + t.size ≤ r.exifLength) (hlim : t.size ≤ readLimit r)
    (h : parseTag tb r t = .ok r1) :
    Coh F r1 ∧ Exact tb ex0 F r1 ∧ r1.po ≤ t.off + t.size ∧ r1.tags = r.tags ∧ r1.pos = r.pos ∧
    r1.exifLength = r.exifLength ∧ readLimit r1 = readLimit r := by
  have hx' := readTagValue_exact hc t hfw hF hx hlim
  have href := parse_step he h (by rw [hx'.2.1, hx'.1])
  rcases OneO.parseTag tb r t r1 h with hs | ⟨hs, _⟩
  · exact ⟨hc.same hs, ⟨fun e hm => he.reads e (hs.reads ▸ hm), href⟩, by rw [hs.po]; omega, hs.tags, hs.pos, hs.exl,
      readLimit_congr hs.buffered⟩
  · have hk := Keep.readTagValue0 r t
    -- `hk` speaks of `readTagValue0`: write the reader of `hs` over it
    have hs0 := hs
    rw [readTagValue_r] at hs0
    refine ⟨(hc.readTagValue t).same hs, ⟨fun e hm => ?_, href⟩, by rw [hs.po, hx'.2.2.1]; omega, hs0.tags.trans hk.tags,
      hs0.pos.trans hk.pos, hs0.exl.trans hk.exl, (readLimit_congr hs0.buffered).trans (readLimit_congr hk.buffered)⟩
    rw [hs.reads, hx'.2.2.2] at hm
    rcases List.mem_append.mp hm with hm | hm
    · exact he.reads e hm
    · rw [List.mem_singleton.mp hm]

theorem parseTag_quiet (tb : Tables) (r r1 : R) (t : Tag) (hq : ¬ Reads t) (h : parseTag tb r t = .ok r1) : Same r r1 := by
  rcases OneO.parseTag tb r t r1 h with hs | ⟨_, hr⟩
  · exact hs
  · exact absurd hr hq

theorem parseTag_quiet_exact {tb : Tables} {ex0 : Rec} {F : Bytes} (r r1 : R) (t : Tag) (hq : ¬ Reads t) (he : Exact tb ex0 F r)
    (h : parseTag tb r t = .ok r1) : Exact tb ex0 F r1 :=
  ⟨by rw [(parseTag_quiet tb r r1 t hq h).reads]; exact he.reads, parse_step he h (parseTagV_quiet t hq _ _ _ _ tb r.ex)⟩

/-- **Forward layouts are read exactly** (in words at `C03_forward_layout_exact`, which is this theorem) -/
theorem ifdLoop_forward {F : Bytes} {ex0 : Rec} (tb : Tables) : ∀ (f : Nat) (r r' : R), Coh F r → Exact tb ex0 F r →
    (r.tags.drop r.pos).Pairwise (fun a b => a.off + a.size ≤ b.off) →
    (∀ t ∈ r.tags.drop r.pos, t.typ ≠ tIfd ∧ ¬(t.id = 0x014a ∧ t.ifd = ifd0) ∧ t.off + t.size ≤ F.length ∧
      t.off + t.size ≤ r.exifLength ∧ t.size ≤ readLimit r) →
    (∀ t ∈ r.tags.drop r.pos, r.po ≤ t.off) →
    ifdLoop tb f r = .ok r' → Coh F r' ∧ Exact tb ex0 F r' := by
  intro f
  induction f with
  | zero => intro r r' _ _ _ _ _ h; cases h
  | succ f ih =>
    intro r r' hc he hlay hall hpo h
    unfold Exif.ifdLoop at h
    split at h
    · rename_i hlt
      rw [List.drop_eq_getElem_cons hlt] at hlay hall hpo
      rw [List.getElem?_eq_getElem hlt] at h
      dsimp only at h
      obtain ⟨hty, hsub, hF, hx, hlim⟩ := hall _ List.mem_cons_self
      rw [if_neg hty, if_neg hsub] at h
      obtain ⟨r1, h1, h⟩ := Outcome.bind_eq_ok h
      obtain ⟨hc1, he1, hpo1, htags, hpos, hexl, hl1⟩ := parseTag_forward tb r r1 _ hc he (hpo _ List.mem_cons_self) hF hx hlim h1
      have hq : ({ r1 with pos := r1.pos + 1 } : R).tags.drop (r1.pos + 1) = r.tags.drop (r.pos + 1) := by rw [← htags, ← hpos]
      have hl' := List.pairwise_cons.mp hlay
      refine ih { r1 with pos := r1.pos + 1 } r' ⟨hc1.rest, hc1.le, hc1.small⟩ ⟨he1.reads, he1.ref⟩ ?_ ?_ ?_ h <;> rw [hq]
      · exact hl'.2
      · exact fun t ht => hexl ▸ hl1 ▸ hall t (List.mem_cons_of_mem _ ht)
      · exact fun t ht => Nat.le_trans hpo1 (hl'.1 t ht)
    · cases h; exact ⟨hc, he⟩

end Imeta.Exif
