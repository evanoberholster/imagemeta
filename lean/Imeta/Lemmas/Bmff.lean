/-
  The ISOBMFF reader model. Running the monad `M` forwards and backwards (`bind_ok`, `bind_ok_inv`). Containment: every
  stream operation of a box keeps each open box inside its declared end (`Rel`, `Pres`). Exact evaluation where the boxes
  and the stream hold the bytes (`Room`, `Full`, `St.adv`). A handler that reports success has closed its box (`Closes`).
  The top-level box (`topBox_run`, `openBox_top`).
-/
import Imeta.Model.Bmff
namespace Imeta.Bmff
open Imeta

/-- the reader has not passed the end of `b`, and what `b` still allows does not pass it either -/
def WFb (pos : Nat) (b : Box) : Prop := (pos : Int) ≤ b.lim ∧ (pos : Int) + b.remain ≤ b.lim

def WF (s : St) : Prop := ∀ b ∈ s.chain, WFb s.pos b

def lims (s : St) : List Int := s.chain.map (·.lim)

/-- the outermost open box is accounted for exactly and lies inside the stream -/
def Tight (s : St) : Prop :=
  ∀ b, s.chain.getLast? = some b → (s.pos : Int) + b.remain = b.lim ∧ b.lim ≤ (s.pos : Int) + s.rest.length

/-- What a box operation may do to the state, `s` before and `s'` after: the open boxes keep their declared ends (`lims`) and the
reader stays within them (`wf`); it only moves forward (`mono`) and what it passes is gone from `rest` (`cons`); an outermost
box that is accounted for exactly stays so (`tight`: what makes the reader end exactly at the box's end); `cfg` is not touched. -/
structure Rel (s s' : St) : Prop where
  wf : WF s → WF s'
  lims : lims s' = lims s
  mono : s.pos ≤ s'.pos
  cons : s'.pos + s'.rest.length = s.pos + s.rest.length
  tight : WF s → Tight s → Tight s'
  cfg : s'.cfg = s.cfg

theorem Rel.refl (s : St) : Rel s s := ⟨id, rfl, Nat.le_refl _, rfl, fun _ h => h, rfl⟩

theorem Rel.trans {a b c : St} (h1 : Rel a b) (h2 : Rel b c) : Rel a c :=
  ⟨fun h => h2.wf (h1.wf h), h2.lims.trans h1.lims, Nat.le_trans h1.mono h2.mono, h2.cons.trans h1.cons,
   fun hw ht => h2.tight (h1.wf hw) (h1.tight hw ht), h2.cfg.trans h1.cfg⟩

def Pres {α} (m : M α) : Prop := ∀ s, s.chain ≠ [] → Rel s (m s).2

theorem bind_ok {α β} {m : M α} {f : α → M β} {s s' : St} {a : α} (h : m s = (.ok a, s')) : (m >>= f) s = f a s' := by
  change M.bind m f s = _; unfold M.bind; rw [h]
theorem bind_err {α β} {m : M α} {f : α → M β} {s s' : St} {k : ErrKind} (h : m s = (.err k, s')) : (m >>= f) s = (.err k, s') := by
  change M.bind m f s = _; unfold M.bind; rw [h]
theorem bind_panic {α β} {m : M α} {f : α → M β} {s s' : St} {p : String} (h : m s = (.panic p, s')) : (m >>= f) s = (.panic p, s') := by
  change M.bind m f s = _; unfold M.bind; rw [h]
theorem attempt_ok {α} {m : M α} {s s' : St} {a : α} (h : m s = (.ok a, s')) : attempt m s = (.ok (.ok a), s') := by
  unfold attempt; rw [h]
theorem attempt_err {α} {m : M α} {s s' : St} {k : ErrKind} (h : m s = (.err k, s')) : attempt m s = (.ok (.error k), s') := by
  unfold attempt; rw [h]
theorem attempt_panic {α} {m : M α} {s s' : St} {p : String} (h : m s = (.panic p, s')) : attempt m s = (.panic p, s') := by
  unfold attempt; rw [h]
theorem attempt_snd {α} (m : M α) (s : St) : (attempt m s).2 = (m s).2 := by
  unfold attempt; split <;> rename_i h <;> rw [h]
theorem pure_run {α} (a : α) (s : St) : (pure a : M α) s = (.ok a, s) := rfl
theorem fail_run {α} (k : ErrKind) (s : St) : (fail k : M α) s = (.err k, s) := rfl
theorem get_run (s : St) : get s = (.ok s, s) := rfl
theorem head_cons {s : St} {b : Box} {t : List Box} (hc : s.chain = b :: t) : head s = (.ok b, s) := by
  unfold head; rw [hc]
theorem head_run (s : St) (h : s.chain ≠ []) : ∃ b, head s = (.ok b, s) :=
  let ⟨b, _, hc⟩ := List.exists_cons_of_ne_nil h
  ⟨b, head_cons hc⟩

theorem bind_ok_inv {α β} {m : M α} {f : α → M β} {s s' : St} {b : β} (h : (m >>= f) s = (.ok b, s')) :
    ∃ a s1, m s = (.ok a, s1) ∧ f a s1 = (.ok b, s') := by
  change M.bind m f s = _ at h; unfold M.bind at h
  split at h
  · exact ⟨_, _, ‹_›, h⟩
  all_goals simp at h

theorem attempt_ok_inv {α} {m : M α} {s s' : St} {a : α} (h : attempt m s = (.ok (.ok a), s')) : m s = (.ok a, s') := by
  unfold attempt at h; split at h <;> simp_all

theorem openBox_ok_inv {α} {size remain offset : Int} {typ : Bytes} {body : M α} {s s' : St} {a : α}
    (h : openBox size remain offset typ body s = (.ok a, s')) :
    ∃ b s1, body { s with chain := b :: s.chain } = (.ok a, s1) ∧ s' = { s1 with chain := s1.chain.tail } := by
  unfold openBox at h
  obtain ⟨h1, rfl⟩ := Prod.mk.inj h
  exact ⟨_, _, Prod.ext h1 rfl, rfl⟩

theorem head_ok {s s' : St} {b : Box} (h : head s = (.ok b, s')) : s' = s ∧ ∃ t, s.chain = b :: t := by
  unfold head at h
  split at h
  · obtain ⟨⟨rfl⟩, rfl⟩ := Prod.mk.inj h; exact ⟨rfl, _, ‹_›⟩
  · cases h

theorem chain_ne_of_rel {s s' : St} (h : Rel s s') (hn : s.chain ≠ []) : s'.chain ≠ [] := by
  intro h0
  have := h.lims
  rw [lims, lims, h0, List.map_nil, eq_comm, List.map_eq_nil_iff] at this
  exact hn this

theorem Pres.run {α} {m : M α} (hp : Pres m) {s s1 : St} {r : Res α} (hn : s.chain ≠ []) (h : m s = (r, s1)) :
    s1.chain ≠ [] ∧ s1.rest.length ≤ s.rest.length := by
  have hr : Rel s s1 := by have := hp s hn; rwa [h] at this
  exact ⟨chain_ne_of_rel hr hn, by have := hr.mono; have := hr.cons; omega⟩

theorem Pres.pure {α} (a : α) : Pres (pure a : M α) := fun s _ => Rel.refl s
theorem Pres.fail {α} (k : ErrKind) : Pres (fail k : M α) := fun s _ => Rel.refl s
theorem Pres.get : Pres get := fun s _ => Rel.refl s
theorem Pres.head : Pres head := by
  intro s _; unfold Bmff.head; split <;> exact Rel.refl s
theorem Pres.loopFuel : Pres loopFuel := fun s _ => Rel.refl s

theorem Pres.bind {α β} {m : M α} {f : α → M β} (hm : Pres m) (hf : ∀ a, Pres (f a)) : Pres (m >>= f) := by
  intro s hn
  have h1 := hm s hn
  cases hms : m s with
  | mk r s1 =>
    rw [hms] at h1
    cases r with
    | ok a => rw [bind_ok hms]; exact h1.trans (hf a s1 (chain_ne_of_rel h1 hn))
    | err k => rw [bind_err hms]; exact h1
    | panic p => rw [bind_panic hms]; exact h1

theorem Pres.attempt {α} {m : M α} (hm : Pres m) : Pres (attempt m) := by
  intro s hn; rw [attempt_snd]; exact hm s hn

theorem peek_snd (n : Int) (s : St) : (peek n s).2 = s := by
  unfold peek
  simp only [apply_ite Prod.snd, ite_self]

theorem Pres.peek (n : Int) : Pres (peek n) := by
  intro s _; rw [peek_snd]; exact Rel.refl s

/-- the invariants see a box only through its account: the end it declares and what it has left -/
def accts (s : St) : List (Int × Int) := s.chain.map fun b => (b.lim, b.remain)

theorem WF_iff (s : St) : WF s ↔ ∀ p ∈ accts s, (s.pos : Int) ≤ p.1 ∧ (s.pos : Int) + p.2 ≤ p.1 := by
  simp only [accts, List.forall_mem_map]; rfl

theorem Tight_iff (s : St) : Tight s ↔
    ∀ p, (accts s).getLast? = some p → (s.pos : Int) + p.2 = p.1 ∧ p.1 ≤ (s.pos : Int) + s.rest.length := by
  simp only [accts, List.getLast?_map, Option.map_eq_some_iff, forall_exists_index, and_imp, forall_apply_eq_imp_iff₂]; rfl

theorem lims_eq (s : St) : lims s = (accts s).map Prod.fst := by
  simp only [lims, accts, List.map_map]; rfl

theorem Rel.of_same {s s' : St} (hc : accts s' = accts s) (hp : s'.pos = s.pos) (hr : s'.rest = s.rest) (hcfg : s'.cfg = s.cfg) :
    Rel s s' := by
  refine ⟨fun hw => ?_, by rw [lims_eq, lims_eq, hc], by omega, by rw [hp, hr], fun _ ht => ?_, hcfg⟩
  · rw [WF_iff, hc, hp]; exact (WF_iff s).mp hw
  · rw [Tight_iff, hc, hp, hr]; exact (Tight_iff s).mp ht

theorem Pres.modify (f : St → St) (hc : ∀ s, (f s).chain = s.chain) (hp : ∀ s, (f s).pos = s.pos) (hr : ∀ s, (f s).rest = s.rest)
    (hcfg : ∀ s, (f s).cfg = s.cfg) : Pres (modify f) := by
  intro s _
  exact Rel.of_same (congrArg (List.map _) (hc s)) (hp s) (hr s) (hcfg s)

theorem Pres.emit (e : Ev) : Pres (emit e) := Pres.modify _ (fun _ => rfl) (fun _ => rfl) (fun _ => rfl) (fun _ => rfl)

theorem Pres.setHead (f : Box → Box) (hf : ∀ b, (f b).lim = b.lim ∧ (f b).remain = b.remain) : Pres (setHead f) := by
  intro s _
  show Rel s (match s.chain with | b :: t => { s with chain := f b :: t } | [] => s)
  cases hc : s.chain with
  | nil => exact Rel.refl s
  | cons b t =>
    refine Rel.of_same ?_ rfl rfl rfl
    simp [accts, hc, hf b]

theorem subAll_last (c : List Box) (m : Int) : (subAll c m).getLast? = c.getLast?.map (fun b => { b with remain := b.remain - m }) := by
  unfold subAll; rw [List.getLast?_map]

/-- Every open box is charged `n`, the stream gives `m` bytes: `m = n`, or `m < n` at the end of the stream, which `Tight` excludes
(then the outermost box lies inside the stream). `∨ n = 0`: charging nothing is allowed whatever `remain` is, even negative
(box.Read with nothing left). -/
theorem Rel.charge (s : St) (n : Int) (m : Nat) (hle : ∀ b ∈ s.chain, n ≤ b.remain ∨ n = 0) (hm : m = min n.toNat s.rest.length)
    (hn : 0 ≤ n) : Rel s { s with chain := subAll s.chain n, rest := s.rest.drop m, pos := s.pos + m } := by
  refine ⟨fun hw b' hb' => ?_, ?_, by simp, by simp only [List.length_drop]; omega, fun _ ht b' hb' => ?_, rfl⟩
  · simp only [subAll, List.mem_map] at hb'
    obtain ⟨b, hb, rfl⟩ := hb'
    have h1 := hw b hb
    have h2 := hle b hb
    unfold WFb at *
    simp only
    constructor <;> omega
  · unfold Bmff.lims subAll; simp [List.map_map, Function.comp_def]
  · rw [subAll_last] at hb'
    obtain ⟨b, hl, rfl⟩ := Option.map_eq_some_iff.mp hb'
    have := ht b hl
    have := hle b (List.mem_of_getLast? hl)
    simp only [List.length_drop]
    omega

def St.adv (s : St) (k : Nat) : St := { s with chain := subAll s.chain k, rest := s.rest.drop k, pos := s.pos + k }

theorem Rel.adv (s : St) (m : Nat) (hle : ∀ b ∈ s.chain, (m : Int) ≤ b.remain ∨ m = 0) (hmr : m ≤ s.rest.length) :
    Rel s (s.adv m) :=
  Rel.charge s m m (fun b hb => by have := hle b hb; omega) (by omega) (by omega)

theorem decChain_lims (c : List Box) (n : Int) : (decChain c n).1.map (·.lim) = c.map (·.lim) := by
  induction c with
  | nil => rfl
  | cons b t ih =>
    unfold decChain
    split
    · simp [ih]
    · rfl

theorem decChain_all (c : List Box) (n : Int) (h : ∀ b ∈ c, n ≤ b.remain) : decChain c n = (subAll c n, true) := by
  induction c with
  | nil => rfl
  | cons b t ih =>
    unfold decChain
    rw [if_pos (h b List.mem_cons_self), ih (fun x hx => h x (List.mem_cons_of_mem _ hx))]
    rfl

theorem decChain_true (c : List Box) (n : Int) (h : (decChain c n).2 = true) : ∀ b ∈ c, n ≤ b.remain := by
  induction c with
  | nil => intro b hb; cases hb
  | cons a t ih =>
    unfold decChain at h
    split at h
    · intro b hb
      rcases List.mem_cons.mp hb with rfl | hb
      · assumption
      · exact ih h b hb
    · cases h

theorem decChain_wf (c : List Box) (n : Int) (hn : 0 ≤ n) (p : Nat) (hw : ∀ b ∈ c, WFb p b) : ∀ b ∈ (decChain c n).1, WFb p b := by
  induction c with
  | nil => intro b hb; simp [decChain] at hb
  | cons b t ih =>
    unfold decChain
    split
    · intro x hx
      rcases List.mem_cons.mp hx with rfl | hx
      · have := hw b List.mem_cons_self
        unfold WFb at *
        simp only
        omega
      · exact ih (fun y hy => hw y (List.mem_cons_of_mem _ hy)) x hx
    · exact hw

theorem decChain_last_false (c : List Box) (n : Int) (h : (decChain c n).2 = false) : (decChain c n).1.getLast? = c.getLast? := by
  induction c with
  | nil => rfl
  | cons b t ih =>
    unfold decChain at h ⊢
    split
    · rw [if_pos ‹_›] at h
      -- `t` is not empty (the empty chain agrees), so the last box is that of `t`
      cases t with
      | nil => cases h
      | cons b2 t2 =>
        have := ih h
        simp only [List.getLast?_cons, this] at this ⊢
        simp
    · rfl

theorem Pres.discard (n : Int) : Pres (discard n) := by
  intro s _
  unfold Bmff.discard
  by_cases hneg : n < 0
  · rw [if_pos hneg]; split <;> exact Rel.refl s
  rw [if_neg hneg]
  simp only []
  cases hflag : (decChain s.chain n).2 with
  | true =>
    -- every level agreed: all are charged `n`, the stream gives what it has of them
    have hall := decChain_true s.chain n hflag
    rw [decChain_all s.chain n hall]
    have key := Rel.charge s n _ (fun b hb => .inl (hall b hb)) rfl (by omega)
    simp only [Bool.not_true, Bool.false_eq_true, if_false]
    split <;> exact key
  | false =>
    -- a level refused: the levels inside it are charged, the reader has not moved, the outermost box is untouched
    simp only [Bool.not_false, if_true]
    exact ⟨fun hw => decChain_wf s.chain n (by omega) s.pos hw, decChain_lims s.chain n, Nat.le_refl _, rfl,
      fun _ ht b' hb' => ht b' (by rw [← decChain_last_false s.chain n hflag]; exact hb'), rfl⟩

theorem limit_le (c : List Box) : ∀ b ∈ c, limit c ≤ b.remain := by
  induction c with
  | nil => intro b hb; cases hb
  | cons a t ih =>
    intro b hb
    cases t with
    | nil => simp at hb; subst hb; simp [limit]
    | cons a2 t2 =>
      simp only [limit]
      rcases List.mem_cons.mp hb with h | h
      · subst h; exact Int.min_le_left _ _
      · exact Int.le_trans (Int.min_le_right _ _) (ih b h)

theorem Pres.readUpTo (k : Nat) : Pres (readUpTo k) := by
  intro s _
  refine Rel.adv s (min (min k (limit s.chain).toNat) s.rest.length) (fun b hb => ?_) (by omega)
  have := limit_le s.chain b hb
  omega

theorem WF.push {s : St} {b : Box} (hw : WF s) (hb : b.lim = s.pos + max b.remain 0) : WF { s with chain := b :: s.chain } := by
  intro y hy
  rcases List.mem_cons.mp hy with rfl | h
  · unfold WFb; rw [hb]; simp only; constructor <;> omega
  · exact hw y h

theorem WF.pop {s : St} (hw : WF s) : WF { s with chain := s.chain.tail } :=
  fun y hy => hw y (List.mem_of_mem_tail hy)

theorem Tight.push {s : St} {b : Box} (ht : Tight s) (hn : s.chain ≠ []) : Tight { s with chain := b :: s.chain } := by
  intro z hz
  obtain ⟨a, r, hc⟩ := List.exists_cons_of_ne_nil hn
  exact ht z (by simp only [hc, List.getLast?_cons_cons] at hz ⊢; exact hz)

theorem Tight.pop {s : St} (ht : Tight s) (hn : s.chain.tail ≠ []) : Tight { s with chain := s.chain.tail } := by
  intro z hz
  match hc : s.chain, hn with
  | x :: a :: r, _ => exact ht z (by simp only [hc, List.tail_cons, List.getLast?_cons_cons] at hz ⊢; exact hz)

theorem lims_ne {s : St} (hn : s.chain ≠ []) : lims s ≠ [] := by
  unfold lims; simpa using hn

theorem Pres.openBox {α} (size remain offset : Int) (typ : Bytes) {body : M α} (hb : Pres body) :
    Pres (openBox size remain offset typ body) := by
  intro s hn
  unfold Bmff.openBox
  simp only []
  have h1 := hb { s with chain := { size := size, remain := remain, offset := offset, flags := 0, typ := typ, lim := (s.pos : Int) + max remain 0 } :: s.chain }
    (List.cons_ne_nil _ _)
  generalize (body _).2 = s2 at h1
  -- the boxes of `s` sit under the head of the final chain
  have hl : lims { s2 with chain := s2.chain.tail } = lims s := by
    have := congrArg List.tail h1.lims
    simpa [lims, List.map_tail] using this
  have hne : s2.chain.tail ≠ [] := fun h0 => lims_ne hn (by rw [← hl]; simp [lims, h0])
  exact ⟨fun hw => (h1.wf (hw.push rfl)).pop, hl, h1.mono, h1.cons, fun hw ht => (h1.tight (hw.push rfl) (ht.push hn)).pop hne, h1.cfg⟩

theorem Pres.close : Pres close := by
  unfold Bmff.close
  apply Pres.bind Pres.head
  intro b
  split
  · exact Pres.pure ()
  · exact Pres.discard _

theorem Pres.setFlags (v : Nat) : Pres (Bmff.setHead fun b => { b with flags := v }) := Pres.setHead _ (fun _ => ⟨rfl, rfl⟩)

theorem chainOk_all (c : List Box) (n : Int) (h : ∀ b ∈ c, n ≤ b.remain) : chainOk c n = true := by
  unfold chainOk; simp only [List.all_eq_true, decide_eq_true_eq]; exact h

theorem le_limit (t : List Box) (x : Int) (hne : t ≠ []) (h : ∀ o ∈ t, x ≤ o.remain) : x ≤ limit t := by
  induction t with
  | nil => exact absurd rfl hne
  | cons a r ih =>
    cases r with
    | nil => simp [limit]; exact h a List.mem_cons_self
    | cons a2 r2 =>
      simp only [limit]
      exact Int.le_min.mpr ⟨h a List.mem_cons_self, ih (by simp) (fun o ho => h o (List.mem_cons_of_mem _ ho))⟩

theorem limit_head (b : Box) (t : List Box) (h : ∀ o ∈ t, b.remain ≤ o.remain) : limit (b :: t) = b.remain := by
  cases t with
  | nil => rfl
  | cons a r =>
    simp only [limit]
    exact Int.min_eq_left (le_limit (a :: r) _ (by simp) h)

theorem St.adv_cfg (s : St) (k : Nat) : (s.adv k).cfg = s.cfg := rfl
theorem St.adv_rest (s : St) (k : Nat) : (s.adv k).rest = s.rest.drop k := rfl

theorem St.adv_adv (s : St) (a b : Nat) : (s.adv a).adv b = s.adv (a + b) := by
  simp only [St.adv, subAll, List.map_map, List.drop_drop, Nat.add_assoc, St.mk.injEq, true_and, and_true]
  exact List.map_congr_left fun o _ => by simp only [Function.comp]; congr 1; omega

theorem St.adv_zero (s : St) : s.adv 0 = s := by
  simp [St.adv, subAll]

/-- every open box has `n` bytes left and the stream holds them: the next `n` bytes can be peeked and discarded -/
structure Room (s : St) (n : Nat) : Prop where
  nest : ∀ o ∈ s.chain, (n : Int) ≤ o.remain
  len : n ≤ s.rest.length

/-- … and the innermost box has exactly `n` left: reading to its end yields exactly these bytes -/
structure Full (s : St) (n : Nat) : Prop extends Room s n where
  top : ∃ b t, s.chain = b :: t ∧ b.remain = n

theorem Room.of_head {s : St} {b : Box} {t : List Box} {k : Nat} (hc : s.chain = b :: t) (hk : (k : Int) ≤ b.remain)
    (hnest : ∀ o ∈ t, b.remain ≤ o.remain) (hlen : k ≤ s.rest.length) : Room s k := by
  refine ⟨fun o ho => ?_, hlen⟩
  rw [hc] at ho
  rcases List.mem_cons.mp ho with rfl | h
  · exact hk
  · have := hnest o h; omega

theorem Full.of_head {s : St} {b : Box} {t : List Box} {n : Nat} (hc : s.chain = b :: t) (hn : b.remain = n)
    (hnest : ∀ o ∈ t, b.remain ≤ o.remain) (hlen : n ≤ s.rest.length) : Full s n :=
  ⟨Room.of_head hc (by omega) hnest hlen, b, t, hc, hn⟩

theorem Room.adv {s : St} {n : Nat} (h : Room s n) (k : Nat) (hk : k ≤ n) : Room (s.adv k) (n - k) := by
  refine ⟨fun o ho => ?_, by have := h.len; simp only [St.adv, List.length_drop]; omega⟩
  simp only [St.adv, subAll, List.mem_map] at ho
  obtain ⟨o', ho', rfl⟩ := ho
  have := h.nest o' ho'
  simp only; omega

theorem Full.adv {s : St} {n : Nat} (h : Full s n) (k : Nat) (hk : k ≤ n) : Full (s.adv k) (n - k) := by
  obtain ⟨b, t, hc, hn⟩ := h.top
  exact ⟨h.toRoom.adv k hk, { b with remain := b.remain - k }, subAll t k, by simp only [St.adv, hc, subAll, List.map_cons],
    by simp only; omega⟩

theorem Full.events {s : St} {n : Nat} (h : Full s n) (e : List Ev) : Full { s with events := e } n := ⟨⟨h.nest, h.len⟩, h.top⟩

theorem Room.open {s : St} {n : Nat} (h : Room s n) (N : Nat) (hN : N ≤ n) (b : Box) (hb : b.remain = N) :
    Full { s with chain := b :: s.chain } N :=
  ⟨⟨fun o ho => by
    rcases List.mem_cons.mp ho with rfl | ho
    · omega
    · have := h.nest o ho; omega, by have := h.len; simp only; omega⟩, b, _, rfl, hb⟩

theorem Room.peek {s : St} {n : Nat} (h : Room s n) (k : Nat) (hk : k ≤ n) (h4 : k ≤ 4096) :
    Bmff.peek k s = (.ok (s.rest.take k), s) := by
  have := h.len
  unfold Bmff.peek
  rw [chainOk_all s.chain k fun o ho => by have := h.nest o ho; omega]
  simp only [Bool.not_true, Bool.false_eq_true, if_false, Int.toNat_natCast]
  rw [if_neg (by omega), if_neg (by omega), if_neg (by omega)]

theorem Room.discard {s : St} {n : Nat} (h : Room s n) (k : Nat) (hk : k ≤ n) : Bmff.discard k s = (.ok (), s.adv k) := by
  have := h.len
  unfold Bmff.discard
  rw [if_neg (by omega), decChain_all s.chain k fun o ho => by have := h.nest o ho; omega]
  simp only [Bool.not_true, Bool.false_eq_true, if_false, Int.toNat_natCast]
  rw [Nat.min_eq_left (by omega), if_neg (by omega)]
  rfl

theorem discard_ok {n : Int} {s s' : St} (h : discard n s = (.ok (), s')) : ∃ k : Nat, n = k ∧ Room s k ∧ s' = s.adv k := by
  unfold discard at h
  by_cases hneg : n < 0
  · rw [if_pos hneg] at h; split at h <;> cases h
  rw [if_neg hneg] at h
  cases hflag : (decChain s.chain n).2 with
  | false => simp [hflag] at h
  | true =>
    have hall := decChain_true s.chain n hflag
    rw [decChain_all s.chain n hall] at h
    simp only [Bool.not_true, Bool.false_eq_true, if_false] at h
    split at h
    · cases h
    · refine ⟨n.toNat, by omega, ⟨fun o ho => by have := hall o ho; omega, by omega⟩, ?_⟩
      rw [Nat.min_eq_left (by omega)] at h
      rw [← (Prod.mk.inj h).2]
      unfold St.adv
      rw [show ((n.toNat : Nat) : Int) = n by omega]

theorem Full.head {s : St} {n : Nat} (h : Full s n) : ∃ b, Bmff.head s = (.ok b, s) ∧ b.remain = n := by
  obtain ⟨b, t, hc, hn⟩ := h.top
  exact ⟨b, head_cons hc, hn⟩

theorem Full.callback {s : St} {n : Nat} (h : Full s n) (kind : String) (nums : List Nat) (hcb : s.cfg.cb = .drain) :
    Bmff.callback kind nums s =
      (.ok (), { s.adv n with events := { kind := kind, nums := nums, data := s.rest.take n } :: s.events }) := by
  obtain ⟨b, t, hc, hn⟩ := h.top
  have hlim : limit s.chain = n := by
    rw [hc, limit_head b t fun o ho => by have := h.nest o (hc ▸ List.mem_cons_of_mem _ ho); omega, hn]
  have hr : readUpTo s.rest.length s = (.ok (s.rest.take n), s.adv n) := by
    have := h.len
    unfold readUpTo
    simp only [hlim, Int.toNat_natCast]
    rw [show min (min s.rest.length n) s.rest.length = n by omega]
    rfl
  unfold Bmff.callback
  rw [bind_ok (get_run s)]
  simp only [hcb]
  rw [bind_ok hr]
  rfl

theorem close_noop (s : St) (b : Box) (t : List Box) (hc : s.chain = b :: t) (h0 : b.remain = 0) : close s = (.ok (), s) := by
  unfold Bmff.close
  rw [bind_ok (head_cons hc), h0]
  rfl

theorem Full.close {s : St} {n : Nat} (h : Full s n) : Bmff.close s = (.ok (), s.adv n) := by
  obtain ⟨b, hb, hr⟩ := h.head
  unfold Bmff.close
  rw [bind_ok hb, hr]
  split
  · rename_i h0
    rw [show n = 0 by simpa using h0, St.adv_zero]; rfl
  · exact h.discard n (Nat.le_refl _)

theorem Full.close_zero {s : St} (h : Full s 0) : Bmff.close s = (.ok (), s) := by
  rw [h.close, St.adv_zero]

/-- To read `h`: the record literal is the box `openBox` puts on the chain (`remain := N`), and `h` says that `body`, run under it,
consumes exactly `N` bytes (`St.adv … N`) and leaves the events `e`. Then `openBox` consumes `N` bytes of the outer state. -/
theorem openBox_adv {α} (size offset : Int) (typ : Bytes) (body : M α) (s : St) (N : Nat) (a : α) (e : List Ev)
    (h : body { s with chain := { size := size, remain := N, offset := offset, flags := 0, typ := typ, lim := (s.pos : Int) + max (N : Int) 0 } :: s.chain } =
      (.ok a, { St.adv { s with chain := { size := size, remain := N, offset := offset, flags := 0, typ := typ, lim := (s.pos : Int) + max (N : Int) 0 } :: s.chain } N with events := e })) :
    openBox size N offset typ body s = (.ok a, { s.adv N with events := e }) := by
  unfold openBox; simp only []; rw [h]; rfl

theorem Full.readExifHeader {s : St} {n : Nat} (h : Full s n) (f : Nat) (h16 : 16 ≤ n) :
    Bmff.readExifHeader f s =
      (.ok [f, (Tiff.binaryOrder (s.rest.take 16)).code, (Tiff.binaryOrder (s.rest.take 16)).uint (((s.rest.take 16).drop 4).take 4),
            ((n : Int) % 2 ^ 32).toNat, 0, 15], s.adv 8) := by
  obtain ⟨b, hb, hr⟩ := h.head
  unfold Bmff.readExifHeader
  rw [show (16 : Int) = ((16 : Nat) : Int) from rfl, bind_ok (h.peek 16 h16 (by omega)), bind_ok hb,
    show (8 : Int) = ((8 : Nat) : Int) from rfl, bind_ok (h.discard 8 (by omega)), hr]
  rfl

/-- the part of `C11_prvw_delivery` inside the PRVW box (`Full s N`: N bytes left, well nested, in the stream) -/
theorem prvwBody_delivers (s : St) (N : Nat) (F : Full s N) (h24 : 24 ≤ N) (hcb : s.cfg.cb = .drain) (hp : s.cfg.hasPrvw = true) :
    prvwBody t_PRVW s = (.ok (.ok ()),
      { s.adv N with events := { kind := "prvw",
                                 nums := [beNat (((s.rest.take 24).drop 20).take 4), beNat (((s.rest.take 24).drop 14).take 2),
                                          beNat (((s.rest.take 24).drop 16).take 2)],
                                 data := (s.rest.drop 24).take (N - 24) } :: s.events }) := by
  -- The delivery proofs (this one, `mdatExifBody_delivers`, `C11_*_delivery`) go one way: `Full` is carried along the positions the
  -- reader passes (`Full.adv`), so that every peek and discard evaluates (`Room.peek`, `Room.discard`) and the draining callback
  -- gets what the box has left (`Full.callback`). Here: behind the 24-byte header (`F24`) and at the end of the box (`F0`).
  have F24 := F.adv 24 h24
  have F0 := F24.adv (N - 24) (Nat.le_refl _)
  rw [St.adv_adv, Nat.sub_self, show 24 + (N - 24) = N by omega] at F0
  unfold prvwBody
  simp only [bne_self_eq_false, Bool.false_eq_true, if_false]
  -- the PRVW header: 24 bytes peeked, then discarded
  rw [show (24 : Int) = ((24 : Nat) : Int) from rfl, bind_ok (attempt_ok (F.peek 24 h24 (by omega)))]
  simp only []
  rw [bind_ok (attempt_ok (F.discard 24 h24))]
  simp only []
  -- the callback drains the box: the `N - 24` bytes left
  rw [bind_ok (get_run _)]
  simp only [St.adv_cfg, hp, if_true]
  rw [bind_ok (attempt_ok (F24.callback _ _ hcb)), St.adv_adv, show 24 + (N - 24) = N by omega,
    -- nothing is left for `close` to discard
    attempt_ok (F0.events _).close_zero]
  rfl

/-- the part of `C11_mdat_exif_delivery` inside the Exif item box (`Full s L`; `hK`: the item header of K + 4 bytes and a Tiff
header with at least one directory, 16 bytes, fit) -/
theorem mdatExifBody_delivers (s : St) (K L : Nat) (F : Full s L) (hK : K + 4 + 16 ≤ L)
    (hcb : s.cfg.cb = .drain) (hex : s.cfg.hasExif = true) :
    mdatExifBody K s = (.ok (Except.ok ()),
      { s.adv L with events := { kind := "exif",
                                 nums := [1, (Tiff.binaryOrder ((s.rest.drop (K + 4)).take 16)).code,
                                          (Tiff.binaryOrder ((s.rest.drop (K + 4)).take 16)).uint ((((s.rest.drop (K + 4)).take 16).drop 4).take 4),
                                          (((L - (K + 4) : Nat) : Int) % 2 ^ 32).toNat, 0, 15],
                                 data := (s.rest.drop (K + 4 + 8)).take (L - (K + 4) - 8) } :: s.events }) := by
  -- `Full` behind the item header (`F1`) and behind the Tiff header (`F2`)
  have F1 := F.adv (K + 4) (by omega)
  have F2 := F1.adv 8 (by omega)
  unfold mdatExifBody
  -- the item header is skipped
  rw [show ((K : Int) + 4) = ((K + 4 : Nat) : Int) by push_cast; rfl, bind_ok (attempt_ok (F.discard (K + 4) (by omega)))]
  simp only []
  -- the Tiff header is read: 16 bytes peeked, 8 consumed
  rw [bind_ok (attempt_ok (F1.readExifHeader 1 (by omega)))]
  simp only []
  -- the callback drains the box: the `L - (K + 4) - 8` bytes left
  rw [bind_ok (get_run _)]
  simp only [St.adv_cfg, hex, if_true]
  rw [bind_ok (attempt_ok (F2.callback _ _ hcb)), St.adv_adv, St.adv_adv, show K + 4 + (8 + (L - (K + 4) - 8)) = L by omega]
  simp only [St.adv, List.drop_drop, pure_run]

def isOk {α} : Res α → Prop
  | .ok _ => True
  | _ => False

instance {α} (r : Res α) : Decidable (isOk r) := by
  cases r <;> unfold isOk <;> infer_instance

def Closes {α} (m : M α) : Prop := ∀ s, isOk (m s).1 → ∃ b t, (m s).2.chain = b :: t ∧ b.remain = 0

theorem isOk_iff {α} {r : Res α × St} : isOk r.1 ↔ ∃ a, r = (.ok a, r.2) := by
  obtain ⟨r, s⟩ := r
  cases r <;> simp [isOk]

theorem Closes.at {α} {m : M α} (h : Closes m) {s s' : St} {a : α} (hs : m s = (.ok a, s')) : ∃ b t, s'.chain = b :: t ∧ b.remain = 0 := by
  have := h s (by rw [hs]; trivial)
  rwa [hs] at this

theorem Closes.fail {α} (k : ErrKind) : Closes (fail k : M α) := fun _ h => False.elim h
theorem Closes.bind {α β} {m : M α} {f : α → M β} (hf : ∀ a, Closes (f a)) : Closes (m >>= f) := by
  intro s h
  cases hms : m s with
  | mk r s1 =>
    cases r with
    | ok a => rw [bind_ok hms] at h ⊢; exact hf a s1 h
    | err k => rw [bind_err hms] at h; exact absurd h (by simp [isOk])
    | panic p => rw [bind_panic hms] at h; exact absurd h (by simp [isOk])

theorem Closes.close : Closes close := by
  intro s h
  obtain ⟨u, hs⟩ := isOk_iff.mp h
  generalize (Bmff.close s).2 = s' at hs ⊢
  unfold Bmff.close at hs
  obtain ⟨b, s0, h0, hd⟩ := bind_ok_inv hs
  obtain ⟨rfl, t, hc⟩ := head_ok h0
  split at hd
  · obtain rfl : s0 = s' := (Prod.mk.inj hd).2
    exact ⟨b, t, hc, by simpa using ‹(b.remain == 0) = true›⟩
  · -- the box had room for what it had left: all of it is charged
    obtain ⟨k, hk, -, rfl⟩ := discard_ok hd
    exact ⟨_, _, by simp only [St.adv, hc, subAll, List.map_cons]; rfl, by show b.remain - (k : Int) = 0; omega⟩

/-- `err = handler(&b); b.close(); return err` -/
theorem Closes.guarded {m : M Unit} (hm : Closes m) :
    Closes (do
      let r ← Bmff.attempt m
      let _ ← Bmff.attempt Bmff.close
      match r with
      | .ok _ => pure ()
      | .error e => Bmff.fail e) := by
  intro s h
  obtain ⟨u, hs⟩ := isOk_iff.mp h
  rw [hs]
  obtain ⟨r, s1, h1, hs⟩ := bind_ok_inv hs
  obtain ⟨r2, s2, h2, hs⟩ := bind_ok_inv hs
  cases r with
  | error e => cases hs
  | ok u =>
    -- `m` succeeded, so it closed the box and the second `close` does nothing
    obtain ⟨b, t, hc, h0⟩ := hm.at (attempt_ok_inv h1)
    rw [attempt_ok (close_noop s1 b t hc h0)] at h2
    obtain ⟨-, rfl⟩ := Prod.mk.inj h2
    obtain ⟨-, hs⟩ := Prod.mk.inj hs
    exact ⟨b, t, by rw [← hs]; exact hc, h0⟩

theorem Closes.ite {α} {c : Prop} [Decidable c] {a b : M α} (ha : Closes a) (hb : Closes b) : Closes (if c then a else b) := by
  split <;> assumption

/-! each proof follows the last statement of every path of the handler -/

theorem Closes.readMeta : Closes readMeta := .bind fun _ => .bind fun _ => .bind fun _ => .close
theorem Closes.readMoov : Closes readMoov := .bind fun _ => .bind fun _ => .close
theorem Closes.readUUIDBox : Closes readUUIDBox :=
  .bind fun r => by
    cases r
    · exact .fail _
    · exact .bind fun _ => .bind fun _ =>
        .ite (.ite (.bind fun r => by cases r; exact .bind fun _ => .fail _; exact .close) .close) <|
        .ite (.bind fun _ => .close) <| .ite (.bind fun _ => .close) .close
theorem Closes.readMdat : Closes readMdat :=
  .bind fun _ => .ite .close <| .bind fun _ => .bind fun _ => .bind fun _ => .bind fun _ => .bind fun r => by
    cases r; exact .fail _; exact .close
theorem Closes.dispatch (t : Bytes) : Closes (dispatch t) :=
  .ite readMdat <| .ite (guarded readMeta) <| .ite (guarded readMoov) <| .ite readUUIDBox close

theorem peek16_top (s : St) (hs : s.chain = []) :
    peek 16 s = if s.rest.length < 16 then (.err .eof, s) else (.ok (s.rest.take 16), s) := by
  unfold peek
  simp [hs, chainOk]

/-- Reader.readBox either fails without touching anything, or opens a box of the size `sz` the header declares (not
negative) and hands its type to the handler after discarding the header (`hdr` bytes, 8 or 16 in the code; the statement keeps
only `0 ≤ hdr`) -/
theorem topBox_run (body : Bytes → M Unit) (s : St) (hs : s.chain = []) :
    (∃ k, topBox body s = (.err k, s)) ∨
    ∃ sz hdr : Int, 0 ≤ sz ∧ 0 ≤ hdr ∧
      sz = (if ((be32 (s.rest.take 16) : Nat) : Int) == 1 then toI64 (beNat (((s.rest.take 16).drop 8).take 8))
            else ((be32 (s.rest.take 16) : Nat) : Int)) ∧
      topBox body s = openBox sz sz s.pos (((s.rest.take 16).drop 4).take 4)
        (do discard hdr; body (((s.rest.take 16).drop 4).take 4)) s := by
  unfold topBox
  by_cases hl : s.rest.length < 16
  · exact .inl ⟨_, by rw [bind_ok (attempt_err ((peek16_top s hs).trans (if_pos hl)))]; rfl⟩
  rw [bind_ok (attempt_ok ((peek16_top s hs).trans (if_neg hl)))]
  simp only []
  rw [bind_ok (get_run s)]
  by_cases hnl : (((be32 (s.rest.take 16) : Nat) : Int) == 1 && decide (toI64 (beNat (((s.rest.take 16).drop 8).take 8)) < 0)) = true
  · exact .inl ⟨_, by rw [if_pos hnl]; rfl⟩
  · rw [if_neg hnl]
    refine .inr ⟨_, _, ?_, ?_, rfl, rfl⟩
    · split
      · rename_i h1
        simp only [h1, Bool.true_and, decide_eq_true_eq] at hnl
        omega
      · omega
    · split <;> omega

/-- The outermost box, for any contained body: what `C11.top_box_contained` and `C11.top_box_exact` say of `topBox`. `Pres` speaks
of states inside a box, so the step from no box to one is made here, once. -/
theorem openBox_top {α} (sz offset : Int) (typ : Bytes) {m : M α} (hm : Pres m) (s : St) (hs : s.chain = []) :
    (openBox sz sz offset typ m s).2.chain = [] ∧ s.pos ≤ (openBox sz sz offset typ m s).2.pos ∧
    ((openBox sz sz offset typ m s).2.pos : Int) ≤ s.pos + max sz 0 ∧
    (openBox sz sz offset typ m s).2.pos + (openBox sz sz offset typ m s).2.rest.length = s.pos + s.rest.length ∧
    (Closes m → isOk (openBox sz sz offset typ m s).1 → 0 ≤ sz → sz ≤ s.rest.length →
      ((openBox sz sz offset typ m s).2.pos : Int) = s.pos + sz) := by
  unfold openBox
  simp only []
  generalize hbx : ({ size := sz, remain := sz, offset := offset, flags := 0, typ := typ, lim := (s.pos : Int) + max sz 0 } : Box) = b
  have hb : b.lim = (s.pos : Int) + max b.remain 0 ∧ b.remain = sz := by subst hbx; exact ⟨rfl, rfl⟩
  -- with `b` opened the state is `WF`, and `Tight` if the stream holds the box
  have hw := WF.push (s := s) (b := b) (fun y hy => by rw [hs] at hy; cases hy) hb.1
  have ht : 0 ≤ sz → sz ≤ s.rest.length → Tight { s with chain := b :: s.chain } := fun h0 hfit y hy => by
    obtain rfl : b = y := by simpa [hs] using hy
    constructor <;> simp only <;> omega
  -- `m` keeps the invariants from there
  have h1 := hm { s with chain := b :: s.chain } (List.cons_ne_nil _ _)
  generalize hr : m { s with chain := b :: s.chain } = r at h1 ⊢
  -- the final chain is one box with the limit of the box that was opened
  obtain ⟨x, hc2, hx⟩ : ∃ x, r.2.chain = [x] ∧ x.lim = b.lim := by
    have := h1.lims
    simp only [lims, hs, List.map_cons, List.map_nil] at this
    exact List.map_eq_singleton_iff.mp this
  have hwx := h1.wf hw x (by rw [hc2]; exact List.mem_cons_self)
  unfold WFb at hwx
  refine ⟨by rw [hc2]; rfl, h1.mono, by rw [← hb.2, ← hb.1, ← hx]; exact hwx.1, h1.cons, fun hc hok h0 hfit => ?_⟩
  -- on success `Closes` leaves `x.remain = 0`, and `Tight` (`pos + remain = lim`) puts the reader at the end of the box
  obtain ⟨a, ha⟩ := isOk_iff.mp hok
  obtain ⟨x', t', hc3, hz⟩ := hc.at (hr.trans ha)
  obtain ⟨rfl, -⟩ := List.cons.inj (hc2.symm.trans hc3)
  have := h1.tight hw (ht h0 hfit) x (by rw [hc2]; rfl)
  omega

end Imeta.Bmff
