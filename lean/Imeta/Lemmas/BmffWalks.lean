/-
  C02 for the two item walks of the ISOBMFF reader that run over a peeked buffer (readInfe, readIloc): the model gives
  them |buf|/12+1 resp. |buf|/6+1 rounds and returns what it has when the rounds are used up.  These lemmas show that
  the rounds are never used up: every round that continues has advanced the cursor by at least 12 resp. 6 bytes, so the
  result is the same for every larger number of rounds (the loop of the code, which has no counter, ends by itself).
-/
import Imeta.Model.Bmff
namespace Imeta.Bmff
open Imeta

theorem infeWalk_fuel (buf : Bytes) : ∀ (f g i : Nat) (ids : Nat × Nat), buf.length < i + 12 * f → f ≤ g →
    infeWalk buf g i ids = infeWalk buf f i ids := by
  intro f
  induction f with
  | zero =>
    intro g i ids h _
    cases g with
    | zero => rfl
    | succ g => unfold infeWalk; rw [if_neg (by omega)]
  | succ f ih =>
    intro g i ids h hg
    obtain ⟨g, rfl⟩ : ∃ g', g = g' + 1 := ⟨g - 1, by omega⟩
    unfold infeWalk
    -- the two unfoldings are compared branch by branch (`split` would re-simplify the whole body at every level)
    refine ite_congr rfl (fun _ => ?_) fun _ => rfl
    refine ite_congr rfl (fun _ => rfl) fun hs => ?_
    -- a round that goes on has stepped over an entry of at least 12 bytes
    have next : ∀ ids', infeWalk buf g (i + be32 (buf.drop i)) ids' = infeWalk buf f (i + be32 (buf.drop i)) ids' := fun ids' =>
      ih g _ ids' (by simp only [Bool.or_eq_true, decide_eq_true_eq, not_or, Nat.not_lt] at hs; omega) (by omega)
    exact ite_congr rfl (fun _ => next _) fun _ => ite_congr rfl (fun _ => next _) fun _ => ite_congr rfl (fun _ => next _) fun _ => next _

theorem ilocWalk_fuel (c : IlocCfg) (exifId xmlId : Nat) (buf : Bytes) : ∀ (f g i : Nat) (ol : Nat × Nat),
    buf.length < i + 6 * f → f ≤ g → ilocWalk c exifId xmlId buf g i ol = ilocWalk c exifId xmlId buf f i ol := by
  intro f
  induction f with
  | zero =>
    intro g i ol h _
    cases g with
    | zero => rfl
    | succ g => unfold ilocWalk; exact if_neg (by omega)
  | succ f ih =>
    intro g i ol h hg
    obtain ⟨g, rfl⟩ : ∃ g', g = g' + 1 := ⟨g - 1, by omega⟩
    unfold ilocWalk
    -- a round that goes on has stepped over an entry header of at least 6 bytes
    have next : ∀ j ol', i + 6 ≤ j → ilocWalk c exifId xmlId buf g j ol' = ilocWalk c exifId xmlId buf f j ol' := fun j ol' hj =>
      ih g j ol' (by omega) (by omega)
    refine ite_congr rfl (fun _ => ?_) fun _ => rfl
    exact ite_congr rfl (fun _ => next _ _ (by omega)) fun _ => ite_congr rfl (fun _ => rfl) fun _ => next _ _ (by omega)

end Imeta.Bmff
