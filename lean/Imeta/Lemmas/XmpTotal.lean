/-
  The XMP reader model terminates: no call with the fuel the model provides ends in the `fuel` outcome.  The look-ahead
  loops give up at the first window that exceeds the buffer, W = 1538: readAttrValue (256 + 512k) and readTagValue (512k)
  at their fourth, findTagStart (128k) at its thirteenth; every other loop consumes input on each round.
  `OK m`: from no state does `m` run out of fuel or give input back; `OKat m st`: the same from `st`; `Prog m`: a run that
  succeeds consumes; `Spec m st Q`: `OKat m st`, and a run from `st` that succeeds ends with `Q`.
-/
import Imeta.Lemmas.XmpStep
namespace Imeta.Xmp

def isFuel {α} : Except XErr α → Prop
  | .error .fuel => True
  | _ => False

def OK {α} (m : M α) : Prop := ∀ st, ¬ isFuel (m st).1 ∧ (m st).2.rest.length ≤ st.rest.length

def OKat {α} (m : M α) (st : St) : Prop := ¬ isFuel (m st).1 ∧ (m st).2.rest.length ≤ st.rest.length

theorem OK.at {α} {m : M α} (h : OK m) (st : St) : OKat m st := h st

theorem OKat.mono {α} {m : M α} {st : St} (h : OKat m st) : (m st).2.rest.length ≤ st.rest.length := h.2

theorem OKat.bind_eq {α β} {m : M α} {f : α → M β} {st st1 : St} {a : α} (h : m st = (.ok a, st1))
    (hl : st1.rest.length ≤ st.rest.length) (hf : OKat (f a) st1) : OKat (m >>= f) st := by
  rw [OKat, bind_ok h]
  exact ⟨hf.1, Nat.le_trans hf.2 hl⟩

theorem OKat.bind {α β} {m : M α} {f : α → M β} {st : St} (hm : OKat m st)
    (hf : ∀ a st1, m st = (.ok a, st1) → st1.rest.length ≤ st.rest.length → OKat (f a) st1) : OKat (m >>= f) st := by
  unfold OKat at *
  cases hms : m st with
  | mk r st1 =>
    rw [hms] at hm
    cases r with
    | ok a => exact OKat.bind_eq hms hm.2 (hf a st1 hms hm.2)
    | error e =>
      rw [bind_err hms]
      refine ⟨?_, hm.2⟩
      have := hm.1
      cases e <;> exact this

theorem OKat.len_bind {α} {k : Nat → M α} {st : St} (h : OKat (k st.rest.length) st) :
    OKat ((fun st => (.ok st.rest.length, st) : M Nat) >>= k) st := h

theorem OKat.getA_bind {α} {k : Bool → M α} {st : St} (h : OKat (k st.a) st) : OKat (getA >>= k) st := h

theorem OKat.ite {α} {c : Prop} [Decidable c] {a b : M α} {st : St} (ha : c → OKat a st) (hb : ¬ c → OKat b st) : OKat (if c then a else b) st := by
  split <;> simp_all

theorem OK.bind {α β} {m : M α} {f : α → M β} (hm : OK m) (hf : ∀ a, OK (f a)) : OK (m >>= f) :=
  fun st => OKat.bind (hm st) (fun a st1 _ _ => hf a st1)

theorem OK.pure {α} (a : α) : OK (pure a : M α) := fun _ => ⟨by simp [isFuel, Pure.pure], Nat.le_refl _⟩
theorem OK.fail {α} (e : XErr) (he : e ≠ .fuel) : OK (fail e : M α) := by
  intro st; refine ⟨?_, Nat.le_refl _⟩
  unfold Xmp.fail isFuel; cases e <;> simp_all
theorem OK.peek (n : Nat) : OK (peek n) := by
  intro st; unfold Xmp.peek
  repeat' split
  all_goals exact ⟨by simp [isFuel], Nat.le_refl _⟩
theorem OK.peekWide (n : Nat) (old : Bytes) : OK (peekWide n old) := by
  intro st; unfold Xmp.peekWide
  exact ⟨by simp [isFuel], Nat.le_refl _⟩
theorem OK.discard (n : Nat) : OK (discard n) := by
  intro st; unfold Xmp.discard; exact ⟨by simp [isFuel], by simp⟩
theorem OK.setA (b : Bool) : OK (setA b) := fun _ => ⟨by simp [isFuel, Xmp.setA], Nat.le_refl _⟩
theorem OK.getA : OK getA := fun _ => ⟨by simp [isFuel, Xmp.getA], Nat.le_refl _⟩
theorem OK.emit (t : Tok) : OK (emit t) := by
  intro st; unfold Xmp.emit; refine ⟨by simp [isFuel], ?_⟩
  split <;> simp
theorem OK.at? (buf : Bytes) (i : Nat) : OK (at? buf i) := by
  unfold Xmp.at?
  split
  · exact OK.pure _
  · exact OK.fail _ (by decide)

theorem OK.peek_bind {α} (sz : Nat) (k : Bytes → M α) (h : sz ≤ W → ∀ buf, OK (k buf)) : OK (Xmp.peek sz >>= k) := by
  by_cases hsz : sz ≤ W
  · exact OK.bind (OK.peek sz) (h hsz)
  · intro st
    rw [bind_err (st' := st) (e := .bufferFull) (by unfold Xmp.peek; rw [if_pos (by omega)])]
    exact ⟨by simp [isFuel], Nat.le_refl _⟩

theorem OK.ite {α} {c : Prop} [Decidable c] {a b : M α} (ha : OK a) (hb : OK b) : OK (if c then a else b) := by
  split <;> assumption

theorem OK.leave {α} (n : Nat) (r : α) : OK (Xmp.discard n >>= fun _ => (Pure.pure r : M α)) := .bind (.discard n) fun _ => .pure r
theorem OK.leaveA {α} (b : Bool) (n : Nat) (r : α) : OK (Xmp.setA b >>= fun _ => Xmp.discard n >>= fun _ => (Pure.pure r : M α)) :=
  .bind (.setA b) fun _ => .leave n r

theorem OK.readAttrValue (tag : Tag) : ∀ (f sz : Nat), W < sz + 512 * f → OK (readAttrValue tag (f + 1) sz) := by
  intro f
  induction f with
  | zero => intro sz h; unfold Xmp.readAttrValue; exact OK.peek_bind _ _ (fun hsz => by omega)
  | succ f ih =>
    intro sz h
    have ihn := ih (sz + 512) (by omega)
    unfold Xmp.readAttrValue
    exact .bind (.peek _) fun buf => .bind (.at? _ _) fun b0 => .ite (.ite (.bind (.at? _ _) fun n1 =>
      .ite (.leaveA _ _ _) (.ite (.bind (.at? _ _) fun n2 => .ite (.leaveA _ _ _) (.leave _ _)) (.leave _ _))) ihn) ihn

theorem OK.readTagValue : ∀ (f sz i j : Nat), W < sz + 512 * f → OK (readTagValue (f + 1) sz i j) := by
  intro f
  induction f with
  | zero => intro sz i j h; unfold Xmp.readTagValue; exact OK.peek_bind _ _ (fun hsz => by omega)
  | succ f ih =>
    intro sz i j h
    unfold Xmp.readTagValue
    exact .bind (.peek _) fun buf => .ite (.leave _ _) (ih _ _ _ (by omega))

theorem OK.readTagValue8 : OK (Xmp.readTagValue 8 512 0 0) := OK.readTagValue 7 512 0 0 (by unfold W; omega)

theorem OK.attrRest (tag : Tag) (p : Prop2) :
    OK (do let (v, tag') ← Xmp.readAttrValue tag 8 256; (Pure.pure ({ pt := 1, parent := tag.self, self := p, val := v }, tag') : M (Tok × Tag))) :=
  .bind (OK.readAttrValue tag 7 256 (by unfold W; omega)) fun _ => .pure _

theorem OK.attrTail (tag : Tag) (p : Prop2) (d : Nat) :
    OK (do Xmp.discard d; let (v, tag') ← Xmp.readAttrValue tag 8 256; (Pure.pure ({ pt := 1, parent := tag.self, self := p, val := v }, tag') : M (Tok × Tag))) :=
  .bind (.discard d) fun _ => OK.attrRest tag p

def Prog {α} (m : M α) : Prop := ∀ st a st', m st = (.ok a, st') → st'.rest.length < st.rest.length

theorem discard_len (n : Nat) (st : St) : (Xmp.discard n st).2.rest.length = st.rest.length - n := by
  unfold Xmp.discard; simp

def Spec {α} (m : M α) (st : St) (Q : α → St → Prop) : Prop := OKat m st ∧ ∀ a st', m st = (.ok a, st') → Q a st'

namespace Spec
variable {α β : Type} {m : M α} {st : St} {Q : α → St → Prop}

theorem bind {f : α → M β} {R : β → St → Prop} (hm : Spec m st Q)
    (hf : ∀ a st1, Q a st1 → st1.rest.length ≤ st.rest.length → Spec (f a) st1 R) : Spec (m >>= f) st R := by
  refine ⟨OKat.bind hm.1 fun a st1 h hl => (hf a st1 (hm.2 a st1 h) hl).1, fun b st' h => ?_⟩
  cases hms : m st with
  | mk r st1 =>
    cases r with
    | error e => rw [bind_err hms] at h; cases h
    | ok a =>
      rw [bind_ok hms] at h
      have hl : st1.rest.length ≤ st.rest.length := by have := hm.1.2; rwa [hms] at this
      exact (hf a st1 (hm.2 a st1 hms) hl).2 b st' h

theorem mono {Q' : α → St → Prop} (h : Spec m st Q) (hq : ∀ a st', Q a st' → Q' a st') : Spec m st Q' := ⟨h.1, fun a st' e => hq a st' (h.2 a st' e)⟩

theorem of_eq {st' : St} {a : α} (h : m st = (.ok a, st')) (hl : st'.rest.length ≤ st.rest.length) (hq : Q a st') : Spec m st Q :=
  ⟨by rw [OKat, h]; exact ⟨fun h => h, hl⟩, fun b s e => by rw [h] at e; cases e; exact hq⟩

theorem pure {a : α} (h : Q a st) : Spec (Pure.pure a : M α) st Q := of_eq rfl (Nat.le_refl _) h
theorem fail {e : XErr} (he : e ≠ .fuel) : Spec (Xmp.fail e : M α) st Q := ⟨(OK.fail e he) st, fun _ _ h => nomatch h⟩
theorem ite {c : Prop} [Decidable c] {a b : M α} (ha : c → Spec a st Q) (hb : ¬ c → Spec b st Q) : Spec (if c then a else b) st Q := by
  split <;> simp_all
theorem len_bind {k : Nat → M α} (h : Spec (k st.rest.length) st Q) : Spec ((fun st => (.ok st.rest.length, st) : M Nat) >>= k) st Q := h

end Spec

theorem OKat.spec {α} {m : M α} {st : St} (h : OKat m st) : Spec m st fun _ st' => st'.rest.length ≤ st.rest.length :=
  ⟨h, fun a st' e => by have := h.2; rwa [e] at this⟩

theorem Spec.peek_bind {α} {sz : Nat} {k : Bytes → M α} {st : St} {Q : α → St → Prop}
    (h : sz ≤ W → ∀ buf, buf.length ≤ st.rest.length → Spec (k buf) st Q) : Spec (Xmp.peek sz >>= k) st Q := by
  refine Spec.bind (Q := fun b st' => st' = st ∧ b.length ≤ st.rest.length ∧ sz ≤ W) ⟨OK.peek sz st, fun b st' e => ?_⟩
    fun b _ ⟨e, hb, hsz⟩ _ => e ▸ h hsz b hb
  unfold Xmp.peek at e
  repeat' split at e
  all_goals cases e
  · exact ⟨rfl, Nat.le_refl _, by omega⟩
  · exact ⟨rfl, by simp only [List.length_take]; exact Nat.min_le_right _ _, by omega⟩

theorem Spec.at?_bind {α} {buf : Bytes} {i : Nat} {k : UInt8 → M α} {st : St} {Q : α → St → Prop}
    (h : ∀ b, Spec (k b) st Q) : Spec (Xmp.at? buf i >>= k) st Q := by
  unfold Xmp.at?
  cases buf[i]? with
  | some b => exact h b
  | none => exact ⟨⟨fun h => h, Nat.le_refl _⟩, fun _ _ e => nomatch e⟩

theorem Spec.leave {α} (n : Nat) (r : α) (s st : St) (hn : 1 ≤ n) (hs : 1 ≤ s.rest.length) (hle : s.rest.length ≤ st.rest.length) :
    Spec (Xmp.discard n >>= fun _ => (Pure.pure r : M α)) s fun _ st' => st'.rest.length < st.rest.length :=
  .of_eq (st' := { s with rest := s.rest.drop n }) rfl (by simp) (by simp only [List.length_drop]; omega)
theorem Spec.leaveA {α} (b : Bool) (n : Nat) (r : α) (s st : St) (hn : 1 ≤ n) (hs : 1 ≤ s.rest.length) (hle : s.rest.length ≤ st.rest.length) :
    Spec (Xmp.setA b >>= fun _ => Xmp.discard n >>= fun _ => (Pure.pure r : M α)) s fun _ st' => st'.rest.length < st.rest.length :=
  .of_eq (st' := { s with a := b, rest := s.rest.drop n }) rfl (by simp) (by simp only [List.length_drop]; omega)

/-- `r.2.2`: the index behind the '<' or "</" that was found -/
theorem findTagStart_spec : ∀ (f sz i0 : Nat) (st : St), W < sz + 128 * f →
    Spec (findTagStart (f + 1) sz i0) st fun r st' => st' = st ∧ 1 ≤ r.2.2 ∧ 1 ≤ st.rest.length := by
  intro f
  induction f with
  | zero => intro sz i0 st h; unfold Xmp.findTagStart; exact Spec.peek_bind fun hsz => by omega
  | succ f ih =>
    intro sz i0 st h
    unfold Xmp.findTagStart
    refine Spec.peek_bind fun _ pb hlen => .ite (fun hk => ?_) fun _ => ih _ _ st (by omega)
    refine Spec.bind (Q := fun _ s => s = st) (by split <;> exact .of_eq rfl (Nat.le_refl _) rfl) fun wb _ e _ => ?_
    subst e
    exact .ite (fun _ => .fail (by decide)) fun _ => Spec.at?_bind fun n1 =>
      .ite (fun _ => .pure ⟨rfl, Nat.le_add_left _ _, by omega⟩) fun _ => .ite (fun _ => .fail (by decide)) fun _ => .pure ⟨rfl, Nat.le_add_left _ _, by omega⟩

theorem OK.findTagStart : ∀ (f sz i : Nat), W < sz + 128 * f → OK (findTagStart (f + 1) sz i) :=
  fun f sz i h st => (findTagStart_spec f sz i st h).1

theorem readTagHeader_spec (parent : Tag) (st : St) : Spec (readTagHeader parent) st fun _ st' => st'.rest.length < st.rest.length := by
  unfold Xmp.readTagHeader
  refine (findTagStart_spec 15 128 0 st (by unfold W; omega)).bind fun ⟨t, buf, i⟩ _ ⟨e, hi, hne⟩ _ => ?_
  subst e
  replace hi : 1 ≤ i := hi
  dsimp only
  split
  · exact .fail (by decide)
  · exact Spec.at?_bind fun c => .ite (fun _ => .leaveA _ _ _ _ _ (by omega) hne (Nat.le_refl _)) fun _ =>
      .ite (fun _ => .leaveA _ _ _ _ _ (by omega) hne (Nat.le_refl _)) fun _ => Spec.at?_bind fun c1 =>
      .ite (fun _ => .leaveA _ _ _ _ _ (by omega) hne (Nat.le_refl _)) fun _ => .leave _ _ _ _ (by omega) hne (Nat.le_refl _)

theorem OK.readTagHeader (parent : Tag) : OK (readTagHeader parent) := fun st => (readTagHeader_spec parent st).1
theorem Prog.readTagHeader (parent : Tag) : Prog (readTagHeader parent) := fun st => (readTagHeader_spec parent st).2

theorem Spec.discard (n : Nat) (st : St) : Spec (Xmp.discard n) st fun _ st' => st' = { st with rest := st.rest.drop n } :=
  .of_eq rfl (by simp) rfl

theorem parseAttrName_spec (buf : Bytes) (p : Prop2) (d : Nat) (h : parseAttrName buf = some (p, d)) : 2 ≤ d ∧ d < buf.length := by
  unfold parseAttrName idxFrom at h
  simp only [] at h
  split at h
  · next hlt => cases h; exact ⟨by omega, hlt⟩
  · cases h

theorem skipAttrWs_spec : ∀ (f : Nat) (st : St), st.rest.length < f → Spec (skipAttrWs f) st fun buf st' => buf.length ≤ st'.rest.length := by
  intro f
  induction f with
  | zero => intro st h; omega
  | succ f ih =>
    intro st hlt
    unfold Xmp.skipAttrWs
    refine Spec.peek_bind fun _ pb hlen => .ite (fun _ => .pure hlen) fun hn => (Spec.discard _ st).bind fun _ _ e _ => e ▸ ih _ ?_
    have : List.findIdx (fun b => !isWs b) pb ≠ 0 := by simpa using hn
    have := List.findIdx_le_length (p := fun b => !isWs b) (xs := pb)
    simp only [List.length_drop]; omega

theorem readAttribute_spec (tag : Tag) (st : St) :
    (¬ isFuel (readAttribute tag st).1 ∧ (readAttribute tag st).2.rest.length ≤ st.rest.length) ∧
    ∀ x st', readAttribute tag st = (.ok x, st') → st'.rest.length < st.rest.length := by
  unfold Xmp.readAttribute
  refine Spec.len_bind <| (skipAttrWs_spec _ st (by omega)).bind fun buf s1 hb h1 => ?_
  -- '>' or "/>" after white space: the tag ends here, one or two bytes go
  have hend : ∀ (k : Nat) (e : Bytes), e.length = k → (buf.take k == e) = true → k ≤ s1.rest.length := fun k e he h => by
    have := congrArg List.length (eq_of_beq h); simp only [List.length_take, he] at this; omega
  refine .ite (fun h => .leaveA _ _ _ _ _ (Nat.le_refl _) (hend 1 _ rfl h) h1) fun _ =>
    .ite (fun h => .leaveA _ _ _ _ _ (by omega) (by have := hend 2 _ rfl h; omega) h1) fun _ => ?_
  cases hpn : parseAttrName buf with
  | none => exact .fail (by decide)
  | some pd =>
    obtain ⟨p, d⟩ := pd
    obtain ⟨hd2, hdl⟩ := parseAttrName_spec buf p d hpn
    refine (Spec.discard d s1).bind fun _ _ e _ => ?_
    subst e
    have hlt : (s1.rest.drop d).length < st.rest.length := by simp only [List.length_drop]; omega
    refine (skipAttrWs_spec _ _ (Nat.lt_succ_of_lt (Nat.lt_succ_of_lt hlt))).bind fun _ s2 _ h2 => ?_
    exact ((OK.attrRest tag p).at s2).spec.mono fun _ _ h => Nat.lt_of_le_of_lt (Nat.le_trans h h2) hlt

theorem attrLoop_ok (seqOf : Option Prop2) : ∀ (f : Nat) (tag : Tag) (st : St), st.rest.length < f → OKat (attrLoop seqOf f tag) st := by
  intro f
  induction f with
  | zero => intro tag st h; omega
  | succ f ih =>
    intro tag st hlt
    unfold Xmp.attrLoop
    apply OKat.getA_bind
    split
    · have hspec := readAttribute_spec tag st
      apply OKat.bind hspec.1
      intro x st1 hx _
      have hprog := hspec.2 x st1 hx
      obtain ⟨tok, tag'⟩ := x
      have hemit : ∀ (t : Tok), OKat (Xmp.emit t >>= fun _ => attrLoop seqOf f tag') st1 := fun t =>
        OKat.bind ((OK.emit t).at st1) (fun _ st2 _ l2 => ih tag' st2 (by omega))
      cases seqOf with
      | none => exact hemit _
      | some pp => exact hemit _
    · exact (OK.pure tag).at st

theorem readSeqTags_ok (parent : Tag) : ∀ (f : Nat) (st : St), st.rest.length < f → OKat (readSeqTags parent f) st := by
  intro f
  induction f with
  | zero => intro st h; omega
  | succ f ih =>
    intro st hlt
    unfold Xmp.readSeqTags
    refine OKat.bind (readTagHeader_spec parent st).1 fun tag st1 h _ => ?_
    have hp := (readTagHeader_spec parent st).2 tag st1 h
    -- an item: attributes, value, emit, then the rest of the array
    exact .ite (fun _ => (OK.pure ()).at st1) fun _ => .ite (fun _ => .len_bind <|
        (attrLoop_ok (some parent.parent) _ tag st1 (by omega)).bind fun _ st2 _ l2 => (OK.readTagValue8.at st2).bind fun v st3 _ l3 =>
        ((OK.emit _).at st3).bind fun u st4 _ l4 => ih st4 (by omega))
      fun _ => ih st1 (by omega)

theorem readTag_ok : ∀ (f : Nat) (parent : Tag) (st : St), st.rest.length < f →
    Spec (readTag f parent) st fun _ st' => st'.rest.length < st.rest.length := by
  intro f
  induction f with
  | zero => intro parent st h; omega
  | succ f ih =>
    intro parent st hlt
    unfold Xmp.readTag
    refine (readTagHeader_spec parent st).bind fun tag st1 hp _ => (OKat.spec ?_).mono fun _ _ h => Nat.lt_of_le_of_lt h hp
    refine .ite (fun _ => (OK.pure tag).at st1) fun _ => .len_bind <| (attrLoop_ok none _ tag st1 (by omega)).bind fun tag2 st2 _ l2 => ?_
    -- the element's content, then the next round
    exact OKat.bind (.ite (fun _ => .ite (fun _ => (readSeqTags_ok tag2 f st2 (by omega)).bind fun _ st3 _ _ => (OK.pure tag2).at st3)
        fun _ => (OK.readTagValue8.at st2).bind fun v st3 _ l3 => ((OK.emit _).at st3).bind fun u st4 _ l4 => (ih tag2 st4 (by omega)).1)
      fun _ => (OK.pure tag2).at st2) fun tag3 st5 _ l5 => .ite (fun _ => (OK.pure tag3).at st5) fun _ => (ih parent st5 (by omega)).1

theorem readSlice_spec (d : UInt8) (st : St) : ∃ r st', readSlice d st = (.ok r, st') ∧ r ≠ some .fuel ∧
    st'.rest.length ≤ st.rest.length ∧ (r ≠ some .eof → st'.rest.length < st.rest.length) := by
  have hW : 0 < W := by unfold W; omega
  have ht : (st.rest.take W).length ≤ st.rest.length := by simp only [List.length_take]; exact Nat.min_le_right _ _
  unfold Xmp.readSlice
  simp only []
  split
  · exact ⟨_, _, rfl, by simp, by simp only [List.length_drop]; omega, fun _ => by simp only [List.length_drop]; omega⟩
  · split
    · exact ⟨_, _, rfl, by simp, by simp, fun h => absurd rfl h⟩
    · exact ⟨_, _, rfl, by simp, by simp only [List.length_drop]; omega, fun _ => by simp only [List.length_drop]; omega⟩

theorem readRootTag_ok : ∀ (f : Nat) (st : St), st.rest.length < f → OKat (readRootTag f) st := by
  intro f
  induction f with
  | zero => intro st h; omega
  | succ f ih =>
    intro st hlt
    unfold Xmp.readRootTag
    -- ReadSlice('<') gives nothing back, and consumes unless the input has ended
    obtain ⟨r, st1, hr, _, hle, hlt1⟩ := readSlice_spec 60 st
    refine OKat.bind_eq hr hle ?_
    cases r with
    | some e =>
      -- no '<': the end of the input is NoXMP; a full buffer is one more round on a shorter stream
      cases e with
      | eof => exact (OK.fail .noXMP (by decide)).at st1
      | _ => exact ih st1 (by have := hlt1 (by simp); omega)
    | none =>
      -- a '<' has gone: Peek(10), then ReadSlice('>') behind `x:xmpmeta`, or one more round
      have hf : st1.rest.length < f := by have := hlt1 (by simp); omega
      show OKat ((fun st => (.ok st, st) : M St) >>= _) st1
      rw [OKat, get_bind, ← OKat]
      split
      · exact (OK.fail .eof (by decide)).at st1
      · split
        · obtain ⟨r2, s2, hr2, hnf, hle2, _⟩ := readSlice_spec 62 st1
          refine OKat.bind_eq hr2 hle2 ?_
          cases r2 with
          | none => exact (OK.pure _).at s2
          | some e => exact (OK.fail e (fun h => hnf (by rw [h]))).at s2
        · exact ih st1 hf

theorem loop_ok (fuel : Nat) (root : Tag) : ∀ (f : Nat) (st : St), st.rest.length < f → st.rest.length < fuel → OKat (parseXmp.loop fuel root f) st := by
  intro f
  induction f with
  | zero => intro st h; omega
  | succ f ih =>
    intro st hlt hfu
    unfold parseXmp.loop
    have hr := readTag_ok fuel root st hfu
    apply OKat.bind hr.1
    intro tag st1 h1 _
    have := hr.2 tag st1 h1
    split
    · exact (OK.pure ()).at st1
    · exact ih st1 (by omega) (by omega)

/-- **ParseXmp of the model terminates without the fuel outcome, for every input.** -/
theorem parseXmp_total (b : Bytes) : ¬ isFuel (parseXmp b).1 := by
  unfold parseXmp
  have h : OKat (readRootTag (b.length + 8) >>= fun root => parseXmp.loop (b.length + 8) root (b.length + 8)) { rest := b, a := false, toks := [] } :=
    OKat.bind (readRootTag_ok (b.length + 8) _ (by simp))
      (fun root st1 _ l1 => loop_ok (b.length + 8) root (b.length + 8) st1 (by simp at l1; omega) (by simp at l1; omega))
  exact h.1

end Imeta.Xmp
