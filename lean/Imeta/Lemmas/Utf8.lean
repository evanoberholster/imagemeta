/-
  The bytes of a string literal, for the kernel.  `"…".toUTF8.toList` builds a byte array push by push and reads it back
  through `ByteArray.toList.loop` (well-founded recursion, `get!` at every index): quadratic, seconds for a few hundred bytes.
  `utf8_toList` states it as a `flatMap` over the characters, which the kernel evaluates in linear time.
-/
namespace Imeta

theorem ByteArray_toList_loop (bs : ByteArray) : ∀ (k i : Nat) (r : List UInt8), i + k = bs.size →
    ByteArray.toList.loop bs i r = r.reverse ++ bs.data.toList.drop i := by
  have hs : bs.data.toList.length = bs.size := rfl
  intro k
  induction k with
  | zero =>
    intro i r h
    rw [ByteArray.toList.loop, if_neg (by omega), List.drop_of_length_le (by omega), List.append_nil]
  | succ k ih =>
    intro i r h
    have hi : i < bs.size := by omega
    have hg : bs.get! i = bs.data.toList[i]'(by omega) := by
      show bs.data[i]! = _
      rw [getElem!_pos bs.data i hi]; rfl
    rw [ByteArray.toList.loop, if_pos hi, ih (i + 1) _ (by omega), hg, List.reverse_cons, List.append_assoc,
      List.singleton_append, ← List.drop_eq_getElem_cons]

/- Use: `rewrite [utf8_toList]` once per distinct literal (the literal unifies with `String.ofList _`), then `decide +kernel`.
   Three traps, each worth ten seconds and more of kernel time on a 350-byte packet:
   * a `def` that is a literal is opened with `rewrite [pkt]`, not `unfold pkt`: `unfold` casts by definitional equality, and
     below a `match` of the statement (matchers unfold eagerly) the kernel then evaluates both sides;
   * for the same reason the literal must not be rewritten below a `match`: `generalize h : pkt = p; revert p` first, so that
     the rewrite happens in `∀ p, pkt = p → …`;
   * `rewrite`, not `rw`: `rw` tries `rfl` afterwards, which on a true closed equation is the evaluation once more.
   `rewrite … at h`, `▸` and `show … from` exceed the recursion limit on lists of this length; `simp only` does not see a
   literal as `String.ofList _`. -/
theorem utf8_toList (l : List Char) : (String.ofList l).toUTF8.toList = l.flatMap String.utf8EncodeChar := by
  show (String.ofList l).toByteArray.toList = _
  rw [String.toByteArray_ofList, ByteArray.toList, ByteArray_toList_loop _ _ 0 [] (Nat.zero_add _)]
  exact List.toList_data_toByteArray

end Imeta
