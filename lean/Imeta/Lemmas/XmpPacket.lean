/-
  C13: whole packets.  The search for the root element steps over whatever precedes it (`readRootTag_exact`); the frame of a
  packet — leading bytes, root start tag, rdf:RDF around a walk, the stop tags, trailing bytes — makes ParseXmp hand on what
  the walk hands on (`parseXmp_frame`); a packet with one Description and a packet with any number of them are instances.
-/
import Imeta.Lemmas.XmpTree
namespace Imeta.Xmp

def rootName : Bytes := [120, 58, 120, 109, 112, 109, 101, 116, 97]
theorem rootName_eq : s "x:xmpmeta" = rootName := by decide +kernel
theorem rootName_length : rootName.length = 9 := rfl

theorem readSlice_found (d : UInt8) (st : St) (g T : Bytes) (hr : st.rest = g ++ d :: T)
    (hg : ∀ x ∈ g, (x == d) = false) (hlen : g.length < W) :
    readSlice d st = (.ok none, { st with rest := T }) := by
  unfold readSlice
  have hw : st.rest.take W = g ++ d :: (T.take (W - g.length - 1)) := by rw [hr, take_through _ _ _ hlen]
  have hk : (st.rest.take W).findIdx (fun x => x == d) = g.length := by
    rw [hw, findIdx_stretch _ g _ d hg (beq_self_eq_true d)]
  simp only [hk]
  rw [if_pos (by rw [hw]; simp)]
  rw [hr, show (g ++ d :: T : Bytes) = (g ++ [d]) ++ T by simp, List.drop_left' (by simp)]

theorem readRootTag_skip (f : Nat) (st : St) (g T : Bytes) (hr : st.rest = g ++ 60 :: T)
    (hg : ∀ x ∈ g, (x == 60) = false) (hlen : g.length < W) (hT : 10 ≤ T.length) (hno : (T.take 9 == rootName) = false) :
    readRootTag (f + 1) st = readRootTag f { st with rest := T } := by
  conv => lhs; unfold readRootTag
  rw [bind_ok (readSlice_found 60 st g T hr hg hlen)]
  simp only []
  rw [get_bind]
  simp only []
  rw [if_neg (by omega)]
  rw [rootName_eq, if_neg (by simp [hno])]

theorem readRootTag_found (f : Nat) (st : St) (g A R : Bytes) (hr : st.rest = g ++ 60 :: (rootName ++ A ++ 62 :: R))
    (hg : ∀ x ∈ g, (x == 60) = false) (hlen : g.length < W) (hA : ∀ x ∈ A, (x == 62) = false) (hAlen : 9 + A.length < W) :
    readRootTag (f + 1) st = (.ok { t := .start, self := rootProp }, { st with rest := R }) := by
  conv => lhs; unfold readRootTag
  rw [bind_ok (readSlice_found 60 st g _ hr hg hlen)]
  simp only []
  rw [get_bind]
  have hl : (rootName ++ A ++ 62 :: R : Bytes).length = 9 + A.length + 1 + R.length := by
    simp [rootName_length]; omega
  rw [if_neg (by rw [hl]; omega)]
  have ht : (rootName ++ A ++ 62 :: R : Bytes).take 9 = rootName := by
    rw [List.append_assoc, ← rootName_length, List.take_left]
  rw [rootName_eq, if_pos (by rw [ht]; simp)]
  have hroot : ∀ x ∈ rootName ++ A, (x == 62) = false := by
    intro x hx
    rcases List.mem_append.mp hx with h | h
    · exact (by decide : ∀ y ∈ rootName, (y == 62) = false) x h
    · exact hA x h
  rw [bind_ok (readSlice_found 62 _ (rootName ++ A) R rfl hroot (by simp [rootName_length]; omega))]
  rfl

/-- leading bytes: any number of stretches `g <` whose '<' is not the root's -/
def serJ : List Bytes → Bytes → Bytes
  | [], T => T
  | g :: gs, T => g ++ 60 :: serJ gs T

/-- What `readRootTag_exact` asks of the leading stretches: each `g` free of '<' and shorter than the buffer, so that
ReadSlice('<') finds its '<'; behind that '<' at least 10 bytes that do not begin with `x:xmpmeta` — readRootTag's Peek(10)
and its comparison of buf[0:9]. -/
def JunkOK : List Bytes → Bytes → Prop
  | [], _ => True
  | g :: gs, T => (∀ x ∈ g, (x == 60) = false) ∧ g.length < W ∧ 10 ≤ (serJ gs T).length ∧ ((serJ gs T).take 9 == rootName) = false ∧ JunkOK gs T

theorem readRootTag_exact (gs : List Bytes) (g A R : Bytes) :
    ∀ (f : Nat) (st : St), st.rest = serJ gs (g ++ 60 :: (rootName ++ A ++ 62 :: R)) →
    JunkOK gs (g ++ 60 :: (rootName ++ A ++ 62 :: R)) →
    (∀ x ∈ g, (x == 60) = false) → g.length < W → (∀ x ∈ A, (x == 62) = false) → 9 + A.length < W →
    readRootTag (f + 1 + gs.length) st = (.ok { t := .start, self := rootProp }, { st with rest := R }) := by
  induction gs with
  | nil =>
    intro f st hr _ hg hlen hA hAlen
    exact readRootTag_found f st g A R hr hg hlen hA hAlen
  | cons g0 gs ih =>
    intro f st hr hj hg hlen hA hAlen
    obtain ⟨h0, h0len, hT, hno, hrest⟩ := hj
    have hfuel : f + 1 + (g0 :: gs).length = (f + 1 + gs.length) + 1 := by simp; omega
    rw [hfuel, readRootTag_skip _ st g0 _ hr h0 h0len hT hno]
    exact ih f _ rfl hrest hg hlen hA hAlen

def nRoot : Name := { n0 := 120, ns := [], name := [120, 109, 112, 109, 101, 116, 97] }
theorem nRoot_prop : nRoot.prop = rootProp := by decide +kernel

theorem serJ_length (gs : List Bytes) (T : Bytes) : gs.length + T.length ≤ (serJ gs T).length := by
  induction gs with
  | nil => simp [serJ]
  | cons g gs ih => simp only [serJ, List.length_cons, List.length_append]; omega

/-- **The frame of a packet**: leading bytes, the root start tag, `<rdf:RDF attrs>` around a walk (`hkids`), the two stop
tags, trailing bytes.  ParseXmp hands on the attributes of rdf:RDF and then what the walk hands on.
`hkids`: parseXmp gives readTag the fuel `b.length + 8`; the round of rdf:RDF takes one, which leaves `b.length + 7` for the
walk below it, and one less at each further level of nesting: the `+ 7`, `+ 6`, `+ 5` of the two packet theorems. -/
theorem parseXmp_frame (b : Bytes) (gs : List Bytes) (g A : Bytes) (RDF : Name) (laR : List (Bytes × Attr))
    (wsR wsV1 X1 ws3 ws4 tail : Bytes) (f : Nat) (K : List Tok → List Tok)
    (hb : b = serJ gs (g ++ 60 :: (rootName ++ A ++ 62 :: (wsR ++ openA RDF laR (wsV1 ++ 60 :: X1)))))
    (hj : JunkOK gs (g ++ 60 :: (rootName ++ A ++ 62 :: (wsR ++ openA RDF laR (wsV1 ++ 60 :: X1)))))
    (hg : ∀ x ∈ g, (x == 60) = false) (hglen : g.length < W) (hA : ∀ x ∈ A, (x == 62) = false) (hAlen : 9 + A.length < W)
    (hRDF : Plain RDF) (hgR : Gap wsR) (hokR : AttrsOK laR) (hwsV1 : ∀ x ∈ wsV1, isWs x = true) (hwinV1 : wsV1.length < 512)
    (hkids : ∀ toks0, readTag (b.length + 7) { t := .start, parent := rootProp, self := RDF.prop } { rest := 60 :: X1, a := false, toks := toks0 } =
      readTag (f + 1) { t := .start, parent := rootProp, self := RDF.prop }
        { rest := ws3 ++ RDF.closeT (ws4 ++ nRoot.closeT tail), a := false, toks := K toks0 })
    (hXlen : 5 ≤ (60 :: X1 : Bytes).length) (hg3 : Gap ws3) (hg4 : Gap ws4) :
    parseXmp b = (.ok (), (K (pushAll RDF.prop laR [])).reverse) := by
  -- the root search takes one round per leading stretch; a stretch is at least its '<', so the fuel `b.length + 8` covers them
  have hgs : gs.length ≤ b.length := by
    have := serJ_length gs (g ++ 60 :: (rootName ++ A ++ 62 :: (wsR ++ openA RDF laR (wsV1 ++ 60 :: X1))))
    rw [← hb] at this; omega
  unfold parseXmp
  simp only []
  have h1 := readRootTag_exact gs g A _ (b.length + 7 - gs.length) { rest := b, a := false, toks := [] } hb hj hg hglen hA hAlen
  rw [show b.length + 7 - gs.length + 1 + gs.length = b.length + 8 by omega] at h1
  rw [bind_ok h1]
  -- the loop's first readTag: rdf:RDF around the walk, and behind its stop tag the rounds below the root go on
  have hrdf := readTag_wrap { t := .start, self := rootProp } { rest := wsR ++ openA RDF laR (wsV1 ++ 60 :: X1), a := false, toks := [] }
    RDF laR wsR wsV1 X1 ws3 (ws4 ++ nRoot.closeT tail) K (b.length + 7) f rfl hRDF hgR hokR hwsV1 hwinV1 (hkids _) hXlen hg3
  -- they meet the root's stop tag, which ends that readTag and, being the root's, the loop
  have hstop := readTag_close nRoot ⟨by decide, by decide, by decide, by decide⟩ { rest := ws4 ++ nRoot.closeT tail, a := false, toks := K (pushAll RDF.prop laR []) }
    ws4 tail rfl hg4 (b.length + 6) (0, 0)
  rw [nRoot_prop] at hstop
  have hloop : parseXmp.loop (b.length + 8) { t := .start, self := rootProp } (b.length + 8)
      { rest := wsR ++ openA RDF laR (wsV1 ++ 60 :: X1), a := false, toks := [] } =
      (.ok (), { rest := tail, a := false, toks := K (pushAll RDF.prop laR []) }) := by
    conv => lhs; rw [show b.length + 8 = (b.length + 7) + 1 by omega]; unfold parseXmp.loop
    rw [bind_eq_of_eq hrdf, show b.length + 7 = b.length + 6 + 1 from rfl, bind_ok hstop]
    have : isRootStop { t := .stop, parent := rootProp, self := rootProp } = true := by simp [isRootStop]
    simp only [this, if_true]
    rfl
  rw [hloop]

/-- the part of a packet behind the root start tag: `wsR <RDF attrs> wsV1 <D attrs> wsV2 children ws2 </D> ws3 </RDF> ws4 </x:xmpmeta> tail` -/
def packetBody (RDF D : Name) (laR laD : List (Bytes × Attr)) (cs : List (Bytes × Child)) (wsR wsV1 wsV2 ws2 ws3 ws4 tail : Bytes) : Bytes :=
  wsR ++ 60 :: ((RDF.n0 :: RDF.ns) ++ 58 :: (RDF.name ++ (ser laR ++ 62 :: (wsV1 ++ 60 :: ((D.n0 :: D.ns) ++ 58 :: (D.name ++ (ser laD ++ 62 ::
    (wsV2 ++ serC cs (ws2 ++ D.closeT (ws3 ++ RDF.closeT (ws4 ++ nRoot.closeT tail)))))))))))

theorem parseXmp_packet_exact (b : Bytes) (gs : List Bytes) (g A : Bytes) (RDF D : Name) (laR laD : List (Bytes × Attr)) (cs : List (Bytes × Child))
    (wsR wsV1 wsV2 ws2 ws3 ws4 tail X2 : Bytes)
    (hb : b = serJ gs (g ++ 60 :: (rootName ++ A ++ 62 :: packetBody RDF D laR laD cs wsR wsV1 wsV2 ws2 ws3 ws4 tail)))
    (hj : JunkOK gs (g ++ 60 :: (rootName ++ A ++ 62 :: packetBody RDF D laR laD cs wsR wsV1 wsV2 ws2 ws3 ws4 tail)))
    (hg : ∀ x ∈ g, (x == 60) = false) (hglen : g.length < W) (hA : ∀ x ∈ A, (x == 62) = false) (hAlen : 9 + A.length < W)
    (hX2 : 60 :: X2 = serC cs (ws2 ++ D.closeT (ws3 ++ RDF.closeT (ws4 ++ nRoot.closeT tail))))
    (hRDF : RDF.OK) (hRseq : (RDF.prop == rdfSeq || RDF.prop == rdfAlt || RDF.prop == rdfBag) = false) (hRroot : (RDF.prop == rootProp) = false)
    (hD : D.OK) (hDseq : (D.prop == rdfSeq || D.prop == rdfAlt || D.prop == rdfBag) = false) (hDroot : (D.prop == rootProp) = false)
    (hwsR : ∀ x ∈ wsR, (x == 60) = false) (hwinR : wsR.length + 128 ≤ W)
    (hlaR : laR ≠ []) (hokR : ∀ p ∈ laR, (∀ x ∈ p.1, isWs x = true) ∧ p.1 ≠ [] ∧ p.2.OK)
    (hwsV1 : ∀ x ∈ wsV1, isWs x = true) (hwinV1 : wsV1.length < 512)
    (hlaD : laD ≠ []) (hokD : ∀ p ∈ laD, (∀ x ∈ p.1, isWs x = true) ∧ p.1 ≠ [] ∧ p.2.OK)
    (hwsV2 : ∀ x ∈ wsV2, isWs x = true) (hwinV2 : wsV2.length < 512)
    (hokc : ∀ p ∈ cs, (∀ x ∈ p.1, (x == 60) = false) ∧ p.1.length + 128 ≤ W ∧ p.2.OK ∧ p.2.need + cs.length ≤ b.length + 6)
    (hws2 : ∀ x ∈ ws2, (x == 60) = false) (hwin2 : ws2.length + 128 ≤ W)
    (hws3 : ∀ x ∈ ws3, (x == 60) = false) (hwin3 : ws3.length + 128 ≤ W)
    (hws4 : ∀ x ∈ ws4, (x == 60) = false) (hwin4 : ws4.length + 128 ≤ W)
    (hcs : cs.length ≤ b.length + 5) :
    parseXmp b = (.ok (), (pushC D.prop cs (pushAll D.prop laD (pushAll RDF.prop laR []))).reverse) := by
  have hbody : packetBody RDF D laR laD cs wsR wsV1 wsV2 ws2 ws3 ws4 tail = wsR ++ openA RDF laR (wsV1 ++ 60 :: ((D.n0 :: D.ns) ++ 58 :: (D.name ++ (ser laD ++ 62 :: (wsV2 ++ 60 :: X2))))) := by
    rw [hX2]; rfl
  rw [hbody] at hb hj
  refine parseXmp_frame b gs g A RDF laR wsR wsV1 _ ws3 ws4 tail (b.length + 5) (fun t0 => pushC D.prop cs (pushAll D.prop laD t0)) hb hj hg hglen hA hAlen
    ⟨hRDF, hRseq, hRroot⟩ ⟨hwsR, hwinR⟩ hokR hwsV1 hwinV1 (fun toks0 => ?_) (by simp; omega) ⟨hws3, hwin3⟩ ⟨hws4, hwin4⟩
  -- the one Description, as the content of rdf:RDF
  exact (children_walk { t := .start, parent := RDF.prop, self := D.prop } cs (b.length + 6 - cs.length)
      (fun p hp => ⟨(hokc p hp).1, (hokc p hp).2.1, (hokc p hp).2.2.1, by have := (hokc p hp).2.2.2; omega⟩)).wrap (by omega) (serC_length cs)
    laD wsV2 ws2 ⟨hD, hDseq, hDroot⟩ hokD hwsV2 hwinV2 ⟨hws2, hwin2⟩ (b.length + 6) _ [] _ (by omega) (by rw [← hX2]; rfl) Gap.nil ⟨X2, hX2⟩

/-- the part of a packet behind the root start tag, with any number of Descriptions -/
def packetBodyN (RDF : Name) (laR : List (Bytes × Attr)) (ds : List (Bytes × DescR)) (wsR wsV1 ws3 ws4 tail : Bytes) : Bytes :=
  wsR ++ 60 :: ((RDF.n0 :: RDF.ns) ++ 58 :: (RDF.name ++ (ser laR ++ 62 :: (wsV1 ++ serDs ds (ws3 ++ RDF.closeT (ws4 ++ nRoot.closeT tail))))))

theorem parseXmp_packetN_exact (b : Bytes) (gs : List Bytes) (g A : Bytes) (RDF : Name) (laR : List (Bytes × Attr)) (ds : List (Bytes × DescR))
    (wsR wsV1 ws3 ws4 tail X1 : Bytes)
    (hb : b = serJ gs (g ++ 60 :: (rootName ++ A ++ 62 :: packetBodyN RDF laR ds wsR wsV1 ws3 ws4 tail)))
    (hj : JunkOK gs (g ++ 60 :: (rootName ++ A ++ 62 :: packetBodyN RDF laR ds wsR wsV1 ws3 ws4 tail)))
    (hg : ∀ x ∈ g, (x == 60) = false) (hglen : g.length < W) (hA : ∀ x ∈ A, (x == 62) = false) (hAlen : 9 + A.length < W)
    (hX1 : 60 :: X1 = serDs ds (ws3 ++ RDF.closeT (ws4 ++ nRoot.closeT tail)))
    (hRDF : RDF.OK) (hRseq : (RDF.prop == rdfSeq || RDF.prop == rdfAlt || RDF.prop == rdfBag) = false) (hRroot : (RDF.prop == rootProp) = false)
    (hwsR : ∀ x ∈ wsR, (x == 60) = false) (hwinR : wsR.length + 128 ≤ W)
    (hlaR : laR ≠ []) (hokR : ∀ p ∈ laR, (∀ x ∈ p.1, isWs x = true) ∧ p.1 ≠ [] ∧ p.2.OK)
    (hwsV1 : ∀ x ∈ wsV1, isWs x = true) (hwinV1 : wsV1.length < 512)
    (hokd : ∀ p ∈ ds, (∀ x ∈ p.1, (x == 60) = false) ∧ p.1.length + 128 ≤ W ∧ p.2.OK (b.length + 7 - ds.length))
    (hws3 : ∀ x ∈ ws3, (x == 60) = false) (hwin3 : ws3.length + 128 ≤ W)
    (hws4 : ∀ x ∈ ws4, (x == 60) = false) (hwin4 : ws4.length + 128 ≤ W)
    (hds : ds.length ≤ b.length + 6) :
    parseXmp b = (.ok (), (pushDs ds (pushAll RDF.prop laR [])).reverse) := by
  have hbody : packetBodyN RDF laR ds wsR wsV1 ws3 ws4 tail = wsR ++ openA RDF laR (wsV1 ++ 60 :: X1) := by rw [hX1]; rfl
  rw [hbody] at hb hj
  rw [show b.length + 7 - ds.length = b.length + 6 - ds.length + 1 by omega] at hokd
  refine parseXmp_frame b gs g A RDF laR wsR wsV1 X1 ws3 ws4 tail (b.length + 6 - ds.length) (pushDs ds) hb hj hg hglen hA hAlen
    ⟨hRDF, hRseq, hRroot⟩ ⟨hwsR, hwinR⟩ hokR hwsV1 hwinV1 (fun toks0 => ?_)
    (by rw [hX1]; have := serDs_length ds (ws3 ++ RDF.closeT (ws4 ++ nRoot.closeT tail)); have := closeT_length ws3 RDF (ws4 ++ nRoot.closeT tail); omega)
    ⟨hws3, hwin3⟩ ⟨hws4, hwin4⟩
  rw [show b.length + 7 = b.length + 6 - ds.length + 1 + ds.length by omega]
  exact (descs_walk { t := .start, parent := rootProp, self := RDF.prop } ds _ hokd).run _ _ _ (Nat.le_refl _) rfl hX1

end Imeta.Xmp
