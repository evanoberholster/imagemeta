/-
  C11 — the infe and iloc walks of the HEIF meta box decode what a well-formed payload encodes: the ids of the last Exif /
  mime item, the location of the last item with the Exif id.
-/
import Imeta.Model.Bmff
namespace Imeta.Bmff
open Imeta

/-- one item of an iloc box with a single extent -/
structure IlocEnt where
  id : Nat
  off : Nat
  len : Nat

def IlocCfg.entrySize (c : IlocCfg) : Nat := 6 + c.baseOffsetSize + (if c.version > 0 then 2 else 0)

/-- The entry as readIloc (isobmff/iloc.go) reads it: item_ID in 16 bits whatever the version (ISO 14496-12 has 32 from version 2),
(construction_method from version 1,) data_reference_index, base_offset — all but the id zero —, extent_count = 1, the extent
as offset and length (no extent_index; the reader reads the first extent only). -/
def encIlocEnt (c : IlocCfg) (e : IlocEnt) : Bytes :=
  beBytes 2 e.id ++ (List.replicate (c.entrySize - 4) 0 ++ (beBytes 2 1 ++ (beBytes c.offsetSize e.off ++ beBytes c.lengthSize e.len)))

def encIloc (c : IlocCfg) : List IlocEnt → Bytes
  | [] => []
  | e :: t => encIlocEnt c e ++ encIloc c t

def IlocEnt.ok (c : IlocCfg) (e : IlocEnt) : Prop := e.id < 65536 ∧ e.off < 256 ^ c.offsetSize ∧ e.len < 256 ^ c.lengthSize

def ilocSpec (exifId : Nat) (ol : Nat × Nat) : List IlocEnt → Nat × Nat
  | [] => ol
  | e :: t => ilocSpec exifId (if e.id == exifId then (e.off, e.len) else ol) t

theorem IlocCfg.six_le_entrySize (c : IlocCfg) : 6 ≤ c.entrySize := by
  unfold IlocCfg.entrySize; omega

theorem encIlocEnt_length (c : IlocCfg) (e : IlocEnt) : (encIlocEnt c e).length = c.entrySize + c.offsetSize + c.lengthSize := by
  unfold encIlocEnt
  simp only [List.length_append, beBytes_length, List.length_replicate]
  unfold IlocCfg.entrySize
  split <;> omega

theorem ilocWalk_end (c : IlocCfg) (x y : Nat) (buf : Bytes) (f i : Nat) (ol : Nat × Nat) (h : buf.length ≤ i) :
    ilocWalk c x y buf f i ol = ol := by
  cases f with
  | zero => rfl
  | succ f => unfold ilocWalk; exact if_neg (by omega)

theorem ilocWalk_entry (c : IlocCfg) (exifId xmlId : Nat) (buf post : Bytes) (e : IlocEnt) (f i : Nat) (ol : Nat × Nat) (he : e.ok c)
    (hd : buf.drop i = encIlocEnt c e ++ post) :
    ilocWalk c exifId xmlId buf (f + 1) i ol =
      ilocWalk c exifId xmlId buf f (i + (encIlocEnt c e).length) (if e.id == exifId then (e.off, e.len) else ol) := by
  have hE6 := c.six_le_entrySize
  have hcnti : i + 2 + (c.entrySize - 4) = i + c.entrySize - 2 := by omega
  have hdl := congrArg List.length hd
  simp only [List.length_drop, List.length_append, encIlocEnt_length] at hdl
  -- the fields of the entry, one after the other
  rw [encIlocEnt] at hd
  simp only [List.append_assoc] at hd
  obtain ⟨hid, hd⟩ := field_at hd (beBytes_length 2 e.id)
  obtain ⟨-, hd⟩ := field_at hd (List.length_replicate ..)
  obtain ⟨hcnt, hd⟩ := field_at hd (beBytes_length 2 1)
  obtain ⟨hoff, hd⟩ := field_at hd (beBytes_length ..)
  obtain ⟨hlenb, -⟩ := field_at hd (beBytes_length ..)
  rw [hcnti] at hcnt hoff hlenb
  rw [ilocWalk]
  simp only []
  rw [show 6 + c.baseOffsetSize + (if c.version > 0 then 2 else 0) = c.entrySize from rfl, if_pos (by omega), hid, hcnt, hoff, hlenb]
  simp only [beNat_beBytes]
  rw [show (1 : Nat) % 256 ^ 2 = 1 by decide, Nat.mod_eq_of_lt (show e.id < 256 ^ 2 by have := he.1; omega),
    Nat.mod_eq_of_lt he.2.1, Nat.mod_eq_of_lt he.2.2]
  simp only [show ((1 : Nat) == 0) = false by decide, Bool.false_eq_true, if_false]
  rw [if_neg (by omega), encIlocEnt_length, show i + c.entrySize - 2 + 2 + c.offsetSize + c.lengthSize = i + (c.entrySize + c.offsetSize + c.lengthSize) by omega]

/-- `C11_iloc_decode_encode` in general: from any position `i` with rounds for the bytes left (an entry takes at least 6), the
walk computes `ilocSpec` -/
theorem ilocWalk_encoded (c : IlocCfg) (exifId xmlId : Nat) (buf : Bytes) :
    ∀ (es : List IlocEnt) (f i : Nat) (ol : Nat × Nat), buf.length < i + 6 * f → (∀ e ∈ es, e.ok c) →
      buf.drop i = encIloc c es → ilocWalk c exifId xmlId buf f i ol = ilocSpec exifId ol es := by
  intro es
  induction es with
  | nil =>
    intro f i ol _ _ hd
    exact ilocWalk_end c _ _ buf f i ol (by have := congrArg List.length hd; simp only [encIloc, List.length_drop, List.length_nil] at this; omega)
  | cons e t ih =>
    intro f i ol hf hok hd
    have hdl := congrArg List.length hd
    simp only [List.length_drop, encIloc, List.length_append, encIlocEnt_length] at hdl
    have := c.six_le_entrySize
    obtain ⟨f, rfl⟩ : ∃ g, f = g + 1 := ⟨f - 1, by omega⟩
    rw [ilocWalk_entry c exifId xmlId buf (encIloc c t) e f i ol (hok e (by simp)) hd]
    refine ih f _ _ (by rw [encIlocEnt_length]; omega) (fun x hx => hok x (by simp [hx])) ?_
    rw [← List.drop_drop, hd, encIloc, List.drop_left]

theorem ilocSpec_none (exifId : Nat) (ol : Nat × Nat) (l : List IlocEnt) (h : ∀ x ∈ l, x.id ≠ exifId) : ilocSpec exifId ol l = ol := by
  induction l generalizing ol with
  | nil => rfl
  | cons x t ih =>
    unfold ilocSpec
    have hx := h x (by simp)
    rw [show (x.id == exifId) = false by simp [hx]]
    exact ih ol (fun y hy => h y (by simp [hy]))

theorem ilocSpec_last (exifId : Nat) (ol : Nat × Nat) (pre post : List IlocEnt) (e : IlocEnt) (he : e.id = exifId)
    (hpost : ∀ x ∈ post, x.id ≠ exifId) : ilocSpec exifId ol (pre ++ e :: post) = (e.off, e.len) := by
  induction pre generalizing ol with
  | nil =>
    show ilocSpec exifId (if e.id == exifId then (e.off, e.len) else ol) post = _
    rw [show (e.id == exifId) = true by simp [he]]
    exact ilocSpec_none exifId _ post hpost
  | cons x t ih => exact ih _

/-- one version-2 item info entry: id, four-character item type, name -/
structure InfeEnt where
  id : Nat
  typ : Bytes
  name : Bytes

def InfeEnt.size (e : InfeEnt) : Nat := 21 + e.name.length

def encInfeEnt (e : InfeEnt) : Bytes :=
  beBytes 4 e.size ++ (t_infe ++ ([2, 0, 0, 0] ++ (beBytes 2 e.id ++ ([0, 0] ++ (e.typ ++ (e.name ++ [0]))))))

def encInfes : List InfeEnt → Bytes
  | [] => []
  | e :: t => encInfeEnt e ++ encInfes t

def InfeEnt.ok (e : InfeEnt) : Prop := e.id < 65536 ∧ e.typ.length = 4 ∧ e.size < 256 ^ 4

def infeSpec (ids : Nat × Nat) : List InfeEnt → Nat × Nat
  | [] => ids
  | e :: t => infeSpec (if e.typ == t_mime then (ids.1, e.id) else if e.typ == t_Exif then (e.id, ids.2) else ids) t

theorem encInfeEnt_length (e : InfeEnt) (h : e.typ.length = 4) : (encInfeEnt e).length = e.size := by
  unfold encInfeEnt InfeEnt.size
  simp only [List.length_append, beBytes_length, h, List.length_cons, List.length_nil]
  have : t_infe.length = 4 := rfl
  omega

theorem infeWalk_end (buf : Bytes) (f i : Nat) (ids : Nat × Nat) (h : buf.length ≤ i) : infeWalk buf f i ids = ids := by
  cases f with
  | zero => rfl
  | succ f => unfold infeWalk; exact if_neg (by omega)

theorem infeWalk_entry (buf post : Bytes) (e : InfeEnt) (f i : Nat) (ids : Nat × Nat) (he : e.ok)
    (hd : buf.drop i = encInfeEnt e ++ post) :
    infeWalk buf (f + 1) i ids =
      infeWalk buf f (i + e.size) (if e.typ == t_mime then (ids.1, e.id) else if e.typ == t_Exif then (e.id, ids.2) else ids) := by
  have hsz : e.size = 21 + e.name.length := rfl
  have hdl := congrArg List.length hd
  simp only [List.length_drop, List.length_append, encInfeEnt_length e he.2.1] at hdl
  -- the fields of the entry, one after the other
  rw [encInfeEnt] at hd
  simp only [List.append_assoc] at hd
  obtain ⟨hsize, hd⟩ := field_at hd (beBytes_length 4 e.size)
  obtain ⟨htyp, hd⟩ := field_at hd (show t_infe.length = 4 from rfl)
  have hver : (buf.drop (i + 4 + 4)).take 1 = [2] := by rw [hd]; rfl
  obtain ⟨-, hd⟩ := field_at hd (show [(2 : UInt8), 0, 0, 0].length = 4 from rfl)
  obtain ⟨hidb, hd⟩ := field_at hd (beBytes_length 2 e.id)
  obtain ⟨-, hd⟩ := field_at hd (show [(0 : UInt8), 0].length = 2 from rfl)
  obtain ⟨hityp, -⟩ := field_at hd he.2.1
  simp only [Nat.add_assoc, Nat.reduceAdd] at htyp hver hidb hityp
  rw [infeWalk, if_pos (by omega)]
  simp only [be32, hsize, htyp, hver, hidb, hityp, beNat_beBytes, Nat.mod_eq_of_lt he.2.2,
    Nat.mod_eq_of_lt (show e.id < 256 ^ 2 by have := he.1; omega)]
  have hc1 : (decide (e.size < 12) || decide (e.size > buf.length - i)) = false := by
    simp only [Bool.or_eq_false_iff, decide_eq_false_iff_not]; omega
  simp only [hc1, Bool.false_eq_true, if_false, bne_self_eq_false]
  rw [if_neg (by omega)]

/-- `C11_infe_decode_encode` from any position `i` with rounds for the bytes left (an entry takes at least 12) -/
theorem infeWalk_encoded (buf : Bytes) :
    ∀ (es : List InfeEnt) (f i : Nat) (ids : Nat × Nat), buf.length < i + 12 * f → (∀ e ∈ es, e.ok) →
      buf.drop i = encInfes es → infeWalk buf f i ids = infeSpec ids es := by
  intro es
  induction es with
  | nil =>
    intro f i ids _ _ hd
    exact infeWalk_end buf f i ids (by have := congrArg List.length hd; simp only [encInfes, List.length_drop, List.length_nil] at this; omega)
  | cons e t ih =>
    intro f i ids hf hok hd
    have he := hok e (by simp)
    have hdl := congrArg List.length hd
    simp only [List.length_drop, encInfes, List.length_append, encInfeEnt_length e he.2.1] at hdl
    have hsz : e.size = 21 + e.name.length := rfl
    obtain ⟨f, rfl⟩ : ∃ g, f = g + 1 := ⟨f - 1, by omega⟩
    rw [infeWalk_entry buf (encInfes t) e f i ids he hd]
    refine ih f _ _ (by omega) (fun x hx => hok x (by simp [hx])) ?_
    rw [← List.drop_drop, hd, encInfes, ← encInfeEnt_length e he.2.1, List.drop_left]

end Imeta.Bmff
