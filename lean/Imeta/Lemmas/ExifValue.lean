/-
  The field parsers.  `parse*V` are the parsers written as pure functions of the tag, the record so far and the outcome
  (bytes, error) of the one read the tag may need: the text of Imeta/Model/Exif.lean with the reader state dropped and
  `buf` / `err` in place of `readTagValue r t`.  The text is checked, not trusted: the pure parsers always return
  (`parse*V_ok`), a streaming value parser IS its pure parser applied to `readTagValue r t`, paired with `r` or with the
  reader after that read (`parse*_eq`), and so `parseTag` returns a reader that is one of those two up to the record and the
  allocation counter, with `parseTagV` of the read as its record (`Field`, `parseTag_shape`).  That a field parser keeps
  the frame (`Fr`), reads at most once (`One`), computes `parseTagV` (`ValO`), does not run out of fuel (`NF`) and does not
  panic (`NP`) are projections of `parseTag_shape`.
  How the relations between readers hang together: `Adv r r'` gives `Keep r r'`, `Fr r r'` and carries `Coh F` from `r` to
  `r'` (`Keep.of_adv`, `Fr.of_adv`, `Coh.of_adv`); `Eff t r r'` gives `One t r r'` and `Fr r r'` (`Eff.one`, `Eff.fr`);
  `Field t r x xv` is `Ret x` with the value (`xv = .ok r'.ex`) and `Eff t r r'` as postcondition.
-/
import Imeta.Lemmas.Exif
import Imeta.Lemmas.ExifExact
namespace Imeta.Exif
open Imeta

structure Same (a b : R) : Prop where
  rest : b.rest = a.rest
  po : b.po = a.po
  exl : b.exifLength = a.exifLength
  buffered : b.buffered = a.buffered
  tags : b.tags = a.tags
  pos : b.pos = a.pos
  reads : b.reads = a.reads

theorem Coh.same {F : Bytes} {a b : R} (h : Coh F a) (hs : Same a b) : Coh F b :=
  ⟨by rw [hs.rest, hs.po]; exact h.rest, by rw [hs.po]; exact h.le, h.small⟩

/-- the only situations in which a field parser reads from the stream: the tag is out of line, or its type is ASCII
or rational (a date, zone or rational parser then reads whatever the count says).  Decided by the type alone, so an
over-approximation: it holds of embedded ASCII entries whose parser never reads (GPSLatitudeRef / GPSLongitudeRef "N\0", a
SubSecTime of up to three digits), and the layout theorems, which ask `¬ Reads` of embedded entries, leave directories
with such entries out. -/
def Reads (t : Tag) : Prop :=
  t.isEmbedded = false ∨ isASCII t = true ∨ t.typ = tASCII ∨ isRat t = true ∨ t.typ = tRational

/-- a field parser touches the stream through at most one `readTagValue r t` of its own tag, from the state it was given -/
def One (t : Tag) (r r' : R) : Prop := Same r r' ∨ (Same (readTagValue r t).r r' ∧ Reads t)

def OneP {β} (t : Tag) (x : Outcome (R × β)) (r : R) : Prop := ∀ r' v, x = .ok (r', v) → One t r r'
def OneO (t : Tag) (x : Outcome R) (r : R) : Prop := ∀ r', x = .ok r' → One t r r'

def FrP {β} (x : Outcome (R × β)) (r : R) : Prop := ∀ r' v, x = .ok (r', v) → Fr r r'
def FrO (x : Outcome R) (r : R) : Prop := ∀ r', x = .ok r' → Fr r r'

def parseBytesV (t : Tag) (strict : Bool) (buf : Bytes) (err : Option ErrKind) : Outcome (Bytes) :=
  if t.isEmbedded then
    -- `ir.buffer.buf[:t.Size()]` after EmbeddedValue wrote the first 4 bytes; Size ≤ 4 here, so the slice is in range
    .ok (trimNUL ((embedded t).take t.size))
  else if isASCII t then
    if strict && err.isSome then .ok ([]) else .ok (trimNUL buf)
  else .ok ([])

def parseStringV (t : Tag) (buf : Bytes) (err : Option ErrKind) : Outcome (Bytes) := do
  let s ← parseBytesV t false buf err
  .ok s

def parseRationalUV (t : Tag) (buf : Bytes) (err : Option ErrKind) : Outcome (Nat × Nat) :=
  if isRat t then
    if err.isSome || buf.length < 8 then .ok (0, 0)
    else do
      let n ← rd32 t.order buf 0
      let d ← rd32 t.order buf 4
      .ok (n, d)
  else .ok (0, 0)

def parseDateV (t : Tag) (buf : Bytes) (err : Option ErrKind) : Outcome (Option DateT) :=
  if t.typ = tASCII then
    if err.isSome then .ok (none)
    else if buf.length ≥ 19 then do
      let c4 ← idx buf 4; let c7 ← idx buf 7; let c10 ← idx buf 10; let c13 ← idx buf 13; let c16 ← idx buf 16
      if c4 == 58 && c7 == 58 && c10 == 32 && c13 == 58 && c16 == 58 then do
        let d ← dateOf buf
        .ok (some d)
      else .ok (none)
    else .ok (none)
  else .ok (none)

def parseOffsetTimeV (t : Tag) (buf : Bytes) (err : Option ErrKind) : Outcome (Zone) :=
  if t.typ = tASCII then
    if err.isSome then .ok (.utc)
    else if buf.length ≥ 6 then do
      let c3 ← idx buf 3
      if c3 == 58 then do
        let hh ← slc buf 1 3; let mm ← slc buf 4 6; let name ← slc buf 0 6
        let c0 ← idx buf 0
        let off : Int := (parseStrUint hh : Int) * 3600 + (parseStrUint mm : Int) * 60
        if c0 == 45 then .ok (.fixed (-off) name)
        else if c0 == 43 then .ok (.fixed off name)
        else .ok (.utc)
      else .ok (.utc)
    else .ok (.utc)
  else .ok (.utc)

def parseSubSecV (t : Tag) (buf : Bytes) (err : Option ErrKind) : Outcome (Nat) :=
  if isASCII t then
    if t.isEmbedded then .ok (subSecMillis (embedded t))
    else do
      let b ← parseBytesV t true buf err
      .ok (subSecMillis b)
  else .ok (0)

def parseLensInfoV (t : Tag) (buf : Bytes) (err : Option ErrKind) : Outcome (List Nat) :=
  if !t.isEmbedded then
    if err.isSome || buf.length < 32 then .ok ([])
    else do
      let a ← six t.order buf
      let a6 ← rd32 t.order buf 24
      let a7 ← rd32 t.order buf 28
      .ok (a ++ [a6, a7])
  else .ok ([])

def parseGPSCoordV (t : Tag) (buf : Bytes) (err : Option ErrKind) : Outcome (Option (List Nat)) :=
  if t.count = 3 ∧ isRat t then
    if err.isSome || buf.length < 24 then .ok (none)
    else do let a ← six t.order buf; .ok (some a)
  else .ok (none)

def parseGPSAltV (t : Tag) (buf : Bytes) (err : Option ErrKind) : Outcome (Option (Nat × Nat)) :=
  if t.count = 1 ∧ isRat t then
    if err.isSome || buf.length < 8 then .ok (none)
    else do
      let n ← rd32 t.order buf 0
      let d ← rd32 t.order buf 4
      .ok (some (n, d))
  else .ok (none)

def parseGPSTimeV (t : Tag) (buf : Bytes) (err : Option ErrKind) : Outcome (Nat) :=
  if t.count = 3 ∧ t.typ = tRational then
    if err.isSome || buf.length < 24 then .ok (0)
    else do
      let v ← six t.order buf
      let g (i : Nat) := v.getD i 0
      let a := if g 1 > 0 then (g 0 / g 1) * 3600 else 0
      let b := if g 3 > 0 then (g 2 / g 3) * 60 else 0
      let c := if g 5 > 0 then g 4 / g 5 else 0
      .ok ((a % 2 ^ 32 + b % 2 ^ 32 + c) % 2 ^ 32)
  else .ok (0)

def parseGPSDateV (t : Tag) (buf : Bytes) (err : Option ErrKind) : Outcome (Option DateT) :=
  if t.typ = tASCII then
    if err.isSome || buf.length < 10 then .ok (none)
    else do
      let c4 ← idx buf 4; let c7 ← idx buf 7
      if c4 == 58 && c7 == 58 && buf.length < 12 then do
        let y ← slc buf 0 4; let mo ← slc buf 5 7; let d ← slc buf 8 10
        .ok (some { y := parseStrUint y, mo := parseStrUint mo, d := parseStrUint d, h := 0, mi := 0, s := 0 })
      else if buf.length > 19 then do
        -- (repaired) the length is checked before `buf[10]`, `buf[13]`, `buf[16]`
        let c10 ← idx buf 10; let c13 ← idx buf 13; let c16 ← idx buf 16
        if c4 == 58 && c7 == 58 && c10 == 32 && c13 == 58 && c16 == 58 then do
          let d ← dateOf buf
          .ok (some d)
        else .ok (none)
      else .ok (none)
  else .ok (none)

def parseIfd0V (tb : Tables) (ex : Rec) (t : Tag) (buf : Bytes) (err : Option ErrKind) : Outcome Rec :=
  if t.id = 0x010f then do
    let s ← parseBytesV t true buf err
    match tb.makeOfString s with
    | some mk => .ok (Rec.set_cameraMake_make (mk) (tb.makeName mk) ex)
    | none => .ok (Rec.set_cameraMake_make (0) (s) ex)
  else if t.id = 0x0110 then do
    let s ← parseBytesV t true buf err
    let hit := if ex.cameraMake = canonMake then tb.canonModel s else if ex.cameraMake = appleMake then tb.appleModel s else none
    match hit with
    | some (m, name) => .ok (Rec.set_cameraModel_model (m) (name) ex)
    | none => .ok (Rec.set_cameraModel_model (0) (s) ex)
  else if t.id = 0x013b then do let s ← parseStringV t buf err; .ok (Rec.set_artist (s) ex)
  else if t.id = 0x8298 then do let s ← parseStringV t buf err; .ok (Rec.set_copyright (s) ex)
  else if t.id = 0x0100 then do let v ← parseUint32 t; .ok (Rec.set_width (v % 65536) ex)
  else if t.id = 0x0101 then do let v ← parseUint32 t; .ok (Rec.set_height (v % 65536) ex)
  else if t.id = 0x0111 then do let v ← parseUint32 t; .ok (Rec.set_stripOffsets (v) ex)
  else if t.id = 0x0117 then do let v ← parseUint32 t; .ok (Rec.set_stripByteCounts (v) ex)
  else if t.id = 0x0112 then do let v ← parseUint16 t; .ok (Rec.set_orientation (v) ex)
  else if t.id = 0x0131 then do let s ← parseStringV t buf err; .ok (Rec.set_software (s) ex)
  else if t.id = 0x010e then do let s ← parseStringV t buf err; .ok (Rec.set_description (s) ex)
  else if t.id = 0x0132 then do let d ← parseDateV t buf err; .ok (Rec.set_modifyDate (d) ex)
  else if t.id = 0xc612 then .ok (if ex.imageType = 8 then (Rec.set_imageType (9) ex) else ex)
  else if t.id = 0xc62f then
    if ex.cameraSerial = [] then do let s ← parseStringV t buf err; .ok (Rec.set_cameraSerial (s) ex)
    else .ok ex
  else .ok ex

def parseExifIfdV (ex : Rec) (t : Tag) (buf : Bytes) (err : Option ErrKind) : Outcome Rec :=
  if t.id = 0xa433 then do let s ← parseStringV t buf err; .ok (Rec.set_lensMake (s) ex)
  else if t.id = 0xa434 then do let s ← parseStringV t buf err; .ok (Rec.set_lensModel (s) ex)
  else if t.id = 0xa435 then do let s ← parseStringV t buf err; .ok (Rec.set_lensSerial (s) ex)
  else if t.id = 0xa430 then
    if ex.artist = [] then do let s ← parseStringV t buf err; .ok (Rec.set_artist (s) ex) else .ok ex
  else if t.id = 0xa431 then
    if ex.cameraSerial = [] then do let s ← parseStringV t buf err; .ok (Rec.set_cameraSerial (s) ex) else .ok ex
  else if t.id = 0xa002 then
    if ex.width = 0 then do let v ← parseUint32 t; .ok (Rec.set_width (v % 65536) ex) else .ok ex
  else if t.id = 0xa003 then
    if ex.height = 0 then do let v ← parseUint32 t; .ok (Rec.set_height (v % 65536) ex) else .ok ex
  else if t.id = 0x829a then
    if isRat t then do let (n, d) ← parseRationalUV t buf err; .ok (Rec.set_exposureTime_exposureTimeSet ((n, d)) (true) ex)
    else .ok (Rec.set_exposureTime_exposureTimeSet ((0, 0)) (false) ex)
  else if t.id = 0x9202 then
    -- `if ir.Exif.FNumber == 0.0`: unset, or set from FNumber to exactly 0/d (0/0 is NaN, which is not 0.0)
    if ex.fnumberKind = 0 ∨ (ex.fnumberKind = 1 ∧ ex.fnumber.1 = 0 ∧ ex.fnumber.2 ≠ 0) then do let (n, d) ← parseRationalUV t buf err; .ok (Rec.set_fnumber_fnumberKind ((n, d)) (2) ex)
    else .ok ex
  else if t.id = 0x829d then
    if isRat t then do let (n, d) ← parseRationalUV t buf err; .ok (Rec.set_fnumber_fnumberKind ((n, d)) (1) ex)
    else .ok (Rec.set_fnumber_fnumberKind ((0, 0)) (0) ex)
  else if t.id = 0x8822 then do let v ← parseUint16 t; .ok (Rec.set_exposureProgram (v) ex)
  else if t.id = 0x9204 then
    if !t.isEmbedded then do
      let (n, d) ← parseRationalUV t buf err
      -- NewExposureBias(int16(n), int16(d)): n << 8 + (d << 8 >> 8), all in int16
      let n16 := wrap16 n; let d16 := wrap16 d
      .ok (Rec.set_exposureBias (wrap16i (wrap16i (n16 * 256) + wrap16i (wrap16i (d16 * 256) / 256))) ex)
    else .ok (Rec.set_exposureBias (0) ex)
  else if t.id = 0xa402 then do let v ← parseUint16 t; .ok (Rec.set_exposureMode (v) ex)
  else if t.id = 0x9207 then do let v ← parseUint16 t; .ok (Rec.set_meteringMode (v) ex)
  else if t.id = 0x8827 then do let v ← parseUint32 t; .ok (Rec.set_isoSpeed (v) ex)
  else if t.id = 0x9209 then do let v ← parseUint16 t; .ok (Rec.set_flash (v) ex)
  else if t.id = 0x920a ∨ t.id = 0xa405 then do
    let (v, set) ←
      (if t.typ = tShort ∨ t.typ = tLong then do let v ← parseUint32 t; .ok ((v, 1), true)
       else if isRat t then do let (n, d) ← parseRationalUV t buf err; .ok ((n, d), true)
       else .ok ((0, 0), false) : Outcome ((Nat × Nat) × Bool))
    if t.id = 0x920a then .ok (Rec.set_focalLength_focalLengthSet (v) (set) ex)
    else .ok (Rec.set_focalLength35_focalLength35Set (v) (set) ex)
  else if t.id = 0xa432 then do let l ← parseLensInfoV t buf err; .ok (Rec.set_lensInfo (l) ex)
  else if t.id = 0x9003 then do let d ← parseDateV t buf err; .ok (Rec.set_dateTimeOriginal (d) ex)
  else if t.id = 0x9004 then do let d ← parseDateV t buf err; .ok (Rec.set_createDate (d) ex)
  else if t.id = 0x9290 then do let v ← parseSubSecV t buf err; .ok (Rec.set_subSec (v) ex)
  else if t.id = 0x9291 then do let v ← parseSubSecV t buf err; .ok (Rec.set_subSecOriginal (v) ex)
  else if t.id = 0x9292 then do let v ← parseSubSecV t buf err; .ok (Rec.set_subSecDigitized (v) ex)
  else if t.id = 0x9010 then do let z ← parseOffsetTimeV t buf err; .ok (Rec.set_offsetTime (z) ex)
  else if t.id = 0x9011 then do let z ← parseOffsetTimeV t buf err; .ok (Rec.set_offsetTimeOriginal (z) ex)
  else if t.id = 0x9012 then do let z ← parseOffsetTimeV t buf err; .ok (Rec.set_offsetTimeDigitized (z) ex)
  else .ok ex

def parseGpsIfdV (ex : Rec) (t : Tag) (buf : Bytes) (err : Option ErrKind) : Outcome Rec :=
  if t.id = 5 then .ok (Rec.set_gpsAltRef (parseGPSRef t) ex)
  else if t.id = 1 then .ok (Rec.set_gpsLatRef (parseGPSRef t) ex)
  else if t.id = 3 then .ok (Rec.set_gpsLngRef (parseGPSRef t) ex)
  else if t.id = 6 then do let v ← parseGPSAltV t buf err; .ok (Rec.set_gpsAlt (v) ex)
  else if t.id = 2 then do let v ← parseGPSCoordV t buf err; .ok (Rec.set_gpsLat (v) ex)
  else if t.id = 4 then do let v ← parseGPSCoordV t buf err; .ok (Rec.set_gpsLng (v) ex)
  else if t.id = 7 then do let v ← parseGPSTimeV t buf err; .ok (Rec.set_gpsTime (v) ex)
  else if t.id = 0x1d then do let v ← parseGPSDateV t buf err; .ok (Rec.set_gpsDate (v) ex)
  else .ok ex

def parseTagV (tb : Tables) (ex : Rec) (t : Tag) (buf : Bytes) (err : Option ErrKind) : Outcome Rec :=
  if t.ifd = ifd0 then parseIfd0V tb ex t buf err
  else if t.ifd = exifIFD then parseExifIfdV ex t buf err
  else if t.ifd = gpsIFD then parseGpsIfdV ex t buf err
  else .ok ex

def ValP {β} (x : Outcome (R × β)) (r : R) (xv : Outcome β) : Prop :=
  (∀ r1 v, x = .ok (r1, v) → r1.ex = r.ex) ∧ omap Prod.snd x = xv

def ValO (x : Outcome R) (xv : Outcome Rec) : Prop := omap (fun r' => r'.ex) x = xv

/- In the proofs of this group the guards of a parser are split off first; `simp (disch := omega) only [.., idx_ok, slc_ok,
rd32_ok]` then evaluates every index, slice and 32-bit read that the guards have put in range. -/

theorem six_ok (o : ByteOrder) (b : Bytes) (h : 24 ≤ b.length) : ∃ v, six o b = .ok v := by
  unfold six; simp (disch := omega) only [bind, Outcome.bind, rd32_ok]; exact ⟨_, rfl⟩

theorem dateOf_ok (b : Bytes) (h : 19 ≤ b.length) : ∃ d, dateOf b = .ok d := by
  unfold dateOf; simp (disch := omega) only [bind, Outcome.bind, slc_ok]; exact ⟨_, rfl⟩

theorem parseUint32_ok (t : Tag) : ∃ v, parseUint32 t = .ok v := by
  unfold parseUint32
  split
  · exact ⟨_, rfl⟩
  · split
    · exact ⟨_, u16_ok _ _ (by rw [embedded_len]; omega)⟩
    · exact ⟨_, rfl⟩

theorem parseUint16_ok (t : Tag) : ∃ v, parseUint16 t = .ok v := by
  unfold parseUint16; split
  · exact ⟨_, u16_ok _ _ (by rw [embedded_len]; omega)⟩
  · exact ⟨_, rfl⟩

section
variable (t : Tag) (buf : Bytes) (err : Option ErrKind)

theorem parseBytesV_ok (s : Bool) : ∃ v, parseBytesV t s buf err = .ok v := by
  unfold parseBytesV; repeat' split
  all_goals exact ⟨_, rfl⟩

theorem parseStringV_ok : ∃ v, parseStringV t buf err = .ok v := by
  obtain ⟨v, h⟩ := parseBytesV_ok t buf err false
  exact ⟨v, by unfold parseStringV; rw [h]; rfl⟩

theorem parseRationalUV_ok : ∃ v, parseRationalUV t buf err = .ok v := by
  unfold parseRationalUV
  refine Outcome.ok_ite (fun _ => ?_) fun _ => ⟨_, rfl⟩
  refine Outcome.ok_ite (fun _ => ⟨_, rfl⟩) fun h => ?_
  simp only [Bool.or_eq_true, decide_eq_true_eq, not_or, Nat.not_lt] at h
  simp (disch := omega) only [bind, Outcome.bind, rd32_ok]
  exact ⟨_, rfl⟩

theorem parseDateV_ok : ∃ v, parseDateV t buf err = .ok v := by
  unfold parseDateV
  refine Outcome.ok_ite (fun _ => ?_) fun _ => ⟨_, rfl⟩
  refine Outcome.ok_ite (fun _ => ⟨_, rfl⟩) fun _ => ?_
  refine Outcome.ok_ite (fun h19 => ?_) fun _ => ⟨_, rfl⟩
  simp (disch := omega) only [bind, Outcome.bind, idx_ok]
  refine Outcome.ok_ite (fun _ => ?_) fun _ => ⟨_, rfl⟩
  obtain ⟨d, hd⟩ := dateOf_ok buf h19; rw [hd]; exact ⟨_, rfl⟩

theorem parseOffsetTimeV_ok : ∃ v, parseOffsetTimeV t buf err = .ok v := by
  unfold parseOffsetTimeV
  refine Outcome.ok_ite (fun _ => ?_) fun _ => ⟨_, rfl⟩
  refine Outcome.ok_ite (fun _ => ⟨_, rfl⟩) fun _ => ?_
  refine Outcome.ok_ite (fun _ => ?_) fun _ => ⟨_, rfl⟩
  simp (disch := omega) only [bind, Outcome.bind, idx_ok, slc_ok]
  repeat' split
  all_goals exact ⟨_, rfl⟩

theorem parseSubSecV_ok : ∃ v, parseSubSecV t buf err = .ok v := by
  unfold parseSubSecV
  split
  · split
    · exact ⟨_, rfl⟩
    · obtain ⟨v, h⟩ := parseBytesV_ok t buf err true; rw [h]; exact ⟨_, rfl⟩
  · exact ⟨_, rfl⟩

theorem parseLensInfoV_ok : ∃ v, parseLensInfoV t buf err = .ok v := by
  unfold parseLensInfoV
  refine Outcome.ok_ite (fun _ => ?_) fun _ => ⟨_, rfl⟩
  refine Outcome.ok_ite (fun _ => ⟨_, rfl⟩) fun h => ?_
  simp only [Bool.or_eq_true, decide_eq_true_eq, not_or, Nat.not_lt] at h
  obtain ⟨a, ha⟩ := six_ok t.order buf (by omega)
  simp (disch := omega) only [ha, bind, Outcome.bind, rd32_ok]
  exact ⟨_, rfl⟩

theorem parseGPSCoordV_ok : ∃ v, parseGPSCoordV t buf err = .ok v := by
  unfold parseGPSCoordV
  refine Outcome.ok_ite (fun _ => ?_) fun _ => ⟨_, rfl⟩
  refine Outcome.ok_ite (fun _ => ⟨_, rfl⟩) fun h => ?_
  simp only [Bool.or_eq_true, decide_eq_true_eq, not_or, Nat.not_lt] at h
  obtain ⟨a, ha⟩ := six_ok t.order buf h.2; rw [ha]; exact ⟨_, rfl⟩

theorem parseGPSAltV_ok : ∃ v, parseGPSAltV t buf err = .ok v := by
  unfold parseGPSAltV
  refine Outcome.ok_ite (fun _ => ?_) fun _ => ⟨_, rfl⟩
  refine Outcome.ok_ite (fun _ => ⟨_, rfl⟩) fun h => ?_
  simp only [Bool.or_eq_true, decide_eq_true_eq, not_or, Nat.not_lt] at h
  simp (disch := omega) only [bind, Outcome.bind, rd32_ok]
  exact ⟨_, rfl⟩

theorem parseGPSTimeV_ok : ∃ v, parseGPSTimeV t buf err = .ok v := by
  unfold parseGPSTimeV
  refine Outcome.ok_ite (fun _ => ?_) fun _ => ⟨_, rfl⟩
  refine Outcome.ok_ite (fun _ => ⟨_, rfl⟩) fun h => ?_
  simp only [Bool.or_eq_true, decide_eq_true_eq, not_or, Nat.not_lt] at h
  obtain ⟨a, ha⟩ := six_ok t.order buf h.2; rw [ha]; exact ⟨_, rfl⟩

theorem parseGPSDateV_ok : ∃ v, parseGPSDateV t buf err = .ok v := by
  unfold parseGPSDateV
  refine Outcome.ok_ite (fun _ => ?_) fun _ => ⟨_, rfl⟩
  refine Outcome.ok_ite (fun _ => ⟨_, rfl⟩) fun h => ?_
  simp only [Bool.or_eq_true, decide_eq_true_eq, not_or, Nat.not_lt] at h
  simp (disch := omega) only [bind, Outcome.bind, idx_ok, slc_ok]
  refine Outcome.ok_ite (fun _ => ⟨_, rfl⟩) fun _ => ?_
  refine Outcome.ok_ite (fun _ => ?_) fun _ => ⟨_, rfl⟩
  simp (disch := omega) only [idx_ok]
  refine Outcome.ok_ite (fun _ => ?_) fun _ => ⟨_, rfl⟩
  obtain ⟨d, hd⟩ := dateOf_ok buf (by omega); rw [hd]; exact ⟨_, rfl⟩

end

def rdIf (r : R) (t : Tag) (c : Prop) [Decidable c] : R := if c then (readTagValue r t).r else r

theorem rdIf_guard {β} (r : R) (t : Tag) {c : Prop} [Decidable c] {x : Outcome (R × β)} {xv : Outcome β} {d : β}
    (h : x = omap (Prod.mk (readTagValue r t).r) xv) :
    (if c then x else .ok (r, d)) = omap (Prod.mk (rdIf r t c)) (if c then xv else .ok d) := by
  unfold rdIf; split
  · exact h
  · rfl

section
variable (r : R) (t : Tag)

theorem parseBytes_eq (s : Bool) :
    parseBytes r t s = omap (Prod.mk (rdIf r t (t.isEmbedded = false ∧ isASCII t = true))) (parseBytesV t s (readTagValue r t).buf (readTagValue r t).err) := by
  unfold parseBytes parseBytesV rdIf
  simp only [omap_ite, omap_ok]
  cases t.isEmbedded <;> cases isASCII t <;> rfl

theorem parseString_eq :
    parseString r t = omap (fun s => ((rdIf r t (t.isEmbedded = false ∧ isASCII t = true)).addAlloc s.length, s)) (parseStringV t (readTagValue r t).buf (readTagValue r t).err) := by
  unfold parseString parseStringV
  rw [parseBytes_eq]
  cases parseBytesV t false (readTagValue r t).buf (readTagValue r t).err <;> rfl

theorem parseRationalU_eq :
    parseRationalU r t = omap (Prod.mk (rdIf r t (isRat t = true))) (parseRationalUV t (readTagValue r t).buf (readTagValue r t).err) := by
  unfold parseRationalU parseRationalUV
  exact rdIf_guard r t (by simp only [omap_ite, omap_bind, omap_ok])

theorem parseDate_eq : parseDate r t = omap (Prod.mk (rdIf r t (t.typ = tASCII))) (parseDateV t (readTagValue r t).buf (readTagValue r t).err) := by
  unfold parseDate parseDateV
  exact rdIf_guard r t (by simp only [omap_ite, omap_bind, omap_ok])

theorem parseOffsetTime_eq : parseOffsetTime r t = omap (Prod.mk (rdIf r t (t.typ = tASCII))) (parseOffsetTimeV t (readTagValue r t).buf (readTagValue r t).err) := by
  unfold parseOffsetTime parseOffsetTimeV
  exact rdIf_guard r t (by simp only [omap_ite, omap_bind, omap_ok])

theorem parseSubSec_eq :
    parseSubSec r t = omap (Prod.mk (rdIf r t (t.isEmbedded = false ∧ isASCII t = true))) (parseSubSecV t (readTagValue r t).buf (readTagValue r t).err) := by
  unfold parseSubSec parseSubSecV
  rw [parseBytes_eq]
  cases parseBytesV t true (readTagValue r t).buf (readTagValue r t).err <;>
    cases t.isEmbedded <;> cases isASCII t <;> rfl

theorem parseLensInfo_eq : parseLensInfo r t = omap (Prod.mk (rdIf r t (t.isEmbedded = false))) (parseLensInfoV t (readTagValue r t).buf (readTagValue r t).err) := by
  unfold parseLensInfo parseLensInfoV
  simp only [Bool.not_eq_true']
  exact rdIf_guard r t (by simp only [omap_ite, omap_bind, omap_ok])

theorem parseGPSCoord_eq : parseGPSCoord r t = omap (Prod.mk (rdIf r t (t.count = 3 ∧ isRat t = true))) (parseGPSCoordV t (readTagValue r t).buf (readTagValue r t).err) := by
  unfold parseGPSCoord parseGPSCoordV
  exact rdIf_guard r t (by simp only [omap_ite, omap_bind, omap_ok])

theorem parseGPSAlt_eq : parseGPSAlt r t = omap (Prod.mk (rdIf r t (t.count = 1 ∧ isRat t = true))) (parseGPSAltV t (readTagValue r t).buf (readTagValue r t).err) := by
  unfold parseGPSAlt parseGPSAltV
  exact rdIf_guard r t (by simp only [omap_ite, omap_bind, omap_ok])

theorem parseGPSTime_eq : parseGPSTime r t = omap (Prod.mk (rdIf r t (t.count = 3 ∧ t.typ = tRational))) (parseGPSTimeV t (readTagValue r t).buf (readTagValue r t).err) := by
  unfold parseGPSTime parseGPSTimeV
  exact rdIf_guard r t (by simp only [omap_ite, omap_bind, omap_ok])

theorem parseGPSDate_eq : parseGPSDate r t = omap (Prod.mk (rdIf r t (t.typ = tASCII))) (parseGPSDateV t (readTagValue r t).buf (readTagValue r t).err) := by
  unfold parseGPSDate parseGPSDateV
  exact rdIf_guard r t (by simp only [omap_ite, omap_bind, omap_ok])
end

def Eff (t : Tag) (r r' : R) : Prop :=
  ∃ r0, (r0 = r ∨ r0 = (readTagValue r t).r ∧ Reads t) ∧ r' = { r0 with ex := r'.ex, alloc := r'.alloc }

theorem Eff.of_eq {t : Tag} {r r0 : R} (h : r0 = r ∨ r0 = (readTagValue r t).r ∧ Reads t) : Eff t r r0 := ⟨r0, h, rfl⟩

theorem Eff.refl (t : Tag) (r : R) : Eff t r r := .of_eq (.inl rfl)

theorem Eff.rdIf {t : Tag} {r : R} {c : Prop} [Decidable c] (h : c → Reads t) : Eff t r (rdIf r t c) := by
  unfold Exif.rdIf; split
  · exact .of_eq (.inr ⟨rfl, h ‹_›⟩)
  · exact .refl t r

theorem Eff.mod {t : Tag} {r r1 : R} (h : Eff t r r1) (e : Rec) (a : Nat) : Eff t r { r1 with ex := e, alloc := a } := by
  obtain ⟨r0, h0, h1⟩ := h; exact ⟨r0, h0, by rw [h1]⟩

theorem rdIf_ex (r : R) (t : Tag) (c : Prop) [Decidable c] : (rdIf r t c).ex = r.ex := by
  unfold rdIf; split
  · rw [readTagValue_r]; exact (Keep.readTagValue0 r t).ex
  · rfl

def FieldP {β} (t : Tag) (r : R) (x : Outcome (R × β)) (xv : Outcome β) : Prop :=
  Ret x fun p => xv = .ok p.2 ∧ p.1.ex = r.ex ∧ Eff t r p.1

def Field (t : Tag) (r : R) (x : Outcome R) (xv : Outcome Rec) : Prop := Ret x fun r' => xv = .ok r'.ex ∧ Eff t r r'

theorem Reads.out {t : Tag} (h : t.isEmbedded = false) : Reads t := .inl h
theorem Reads.ascii {t : Tag} (h : t.typ = tASCII) : Reads t := .inr (.inr (.inl h))
theorem Reads.rat {t : Tag} (h : isRat t = true) : Reads t := .inr (.inr (.inr (.inl h)))
theorem Reads.rational {t : Tag} (h : t.typ = tRational) : Reads t := .inr (.inr (.inr (.inr h)))

theorem FieldP.of_eq {β} {t : Tag} {r : R} {c : Prop} [Decidable c] {x : Outcome (R × β)} {xv : Outcome β}
    (he : x = omap (Prod.mk (rdIf r t c)) xv) (hv : ∃ v, xv = .ok v) (hc : c → Reads t) : FieldP t r x xv := by
  obtain ⟨v, rfl⟩ := hv; subst he; exact Ret.ok ⟨rfl, rdIf_ex .., .rdIf hc⟩

section
variable (r : R) (t : Tag)

theorem parseBytes_spec (s : Bool) : FieldP t r (parseBytes r t s) (parseBytesV t s (readTagValue r t).buf (readTagValue r t).err) :=
  .of_eq (parseBytes_eq r t s) (parseBytesV_ok ..) (.out ·.1)
theorem parseString_spec : FieldP t r (parseString r t) (parseStringV t (readTagValue r t).buf (readTagValue r t).err) := by
  rw [parseString_eq]
  obtain ⟨v, hv⟩ := parseStringV_ok t (readTagValue r t).buf (readTagValue r t).err
  rw [hv]; exact Ret.ok ⟨rfl, rdIf_ex .., (Eff.rdIf (.out ·.1)).mod _ _⟩
theorem parseRationalU_spec : FieldP t r (parseRationalU r t) (parseRationalUV t (readTagValue r t).buf (readTagValue r t).err) :=
  .of_eq (parseRationalU_eq r t) (parseRationalUV_ok ..) .rat
theorem parseDate_spec : FieldP t r (parseDate r t) (parseDateV t (readTagValue r t).buf (readTagValue r t).err) :=
  .of_eq (parseDate_eq r t) (parseDateV_ok ..) .ascii
theorem parseOffsetTime_spec : FieldP t r (parseOffsetTime r t) (parseOffsetTimeV t (readTagValue r t).buf (readTagValue r t).err) :=
  .of_eq (parseOffsetTime_eq r t) (parseOffsetTimeV_ok ..) .ascii
theorem parseSubSec_spec : FieldP t r (parseSubSec r t) (parseSubSecV t (readTagValue r t).buf (readTagValue r t).err) :=
  .of_eq (parseSubSec_eq r t) (parseSubSecV_ok ..) (.out ·.1)
theorem parseLensInfo_spec : FieldP t r (parseLensInfo r t) (parseLensInfoV t (readTagValue r t).buf (readTagValue r t).err) :=
  .of_eq (parseLensInfo_eq r t) (parseLensInfoV_ok ..) .out
theorem parseGPSCoord_spec : FieldP t r (parseGPSCoord r t) (parseGPSCoordV t (readTagValue r t).buf (readTagValue r t).err) :=
  .of_eq (parseGPSCoord_eq r t) (parseGPSCoordV_ok ..) (.rat ·.2)
theorem parseGPSAlt_spec : FieldP t r (parseGPSAlt r t) (parseGPSAltV t (readTagValue r t).buf (readTagValue r t).err) :=
  .of_eq (parseGPSAlt_eq r t) (parseGPSAltV_ok ..) (.rat ·.2)
theorem parseGPSTime_spec : FieldP t r (parseGPSTime r t) (parseGPSTimeV t (readTagValue r t).buf (readTagValue r t).err) :=
  .of_eq (parseGPSTime_eq r t) (parseGPSTimeV_ok ..) (.rational ·.2)
theorem parseGPSDate_spec : FieldP t r (parseGPSDate r t) (parseGPSDateV t (readTagValue r t).buf (readTagValue r t).err) :=
  .of_eq (parseGPSDate_eq r t) (parseGPSDateV_ok ..) .ascii
end

namespace Field
variable {t : Tag} {r r1 : R}

theorem ite {c : Prop} [Decidable c] {a b : Outcome R} {a' b' : Outcome Rec} (ha : Field t r a a') (hb : Field t r b b') :
    Field t r (if c then a else b) (if c then a' else b') := by split <;> assumption

theorem bindP {β} {x : Outcome (R × β)} {xv : Outcome β} {f : R × β → Outcome R} {g : β → Outcome Rec} (hx : FieldP t r x xv)
    (hf : ∀ r1 v, r1.ex = r.ex → Eff t r r1 → Field t r (f (r1, v)) (g v)) : Field t r (x >>= f) (xv >>= g) := by
  obtain ⟨⟨r1, v⟩, rfl, rfl, he, hE⟩ := hx; exact hf r1 v he hE

theorem bindN {β} {x : Outcome β} {f : β → Outcome R} {g : β → Outcome Rec} (hx : ∃ v, x = .ok v)
    (hf : ∀ v, Field t r (f v) (g v)) : Field t r (x >>= f) (x >>= g) := by
  obtain ⟨v, rfl⟩ := hx; exact hf v

theorem upd (he : r1.ex = r.ex) (hE : Eff t r r1) (f : Rec → Rec) : Field t r (.ok (r1.upd f)) (.ok (f r.ex)) :=
  Ret.ok ⟨by rw [← he]; rfl, hE.mod _ _⟩

theorem updA (he : r1.ex = r.ex) (hE : Eff t r r1) (f : Rec → Rec) (n : Nat) :
    Field t r (.ok ((r1.upd f).addAlloc n)) (.ok (f r.ex)) :=
  Ret.ok ⟨by rw [← he]; rfl, hE.mod _ _⟩

theorem refl (t : Tag) (r : R) : Field t r (.ok r) (.ok r.ex) := Ret.ok ⟨rfl, .refl t r⟩

/-- the common branch of a dispatcher: run a value parser, store its value with a setter -/
theorem set {β} {x : Outcome (R × β)} {xv : Outcome β} (hx : FieldP t r x xv) (f : β → Rec → Rec) :
    Field t r (x >>= fun p => .ok (p.1.upd (f p.2))) (xv >>= fun v => .ok (f v r.ex)) :=
  .bindP hx fun _ _ e h => .upd e h _

/-- … a value that needs no read -/
theorem setN {β} {x : Outcome β} (hx : ∃ v, x = .ok v) (f : β → Rec → Rec) :
    Field t r (x >>= fun v => .ok (r.upd (f v))) (x >>= fun v => .ok (f v r.ex)) :=
  .bindN hx fun _ => .upd rfl (.refl t r) _

end Field

theorem parseGpsIfd_field (r : R) (t : Tag) :
    Field t r (parseGpsIfd r t) (parseGpsIfdV r.ex t (readTagValue r t).buf (readTagValue r t).err) := by
  unfold parseGpsIfd parseGpsIfdV
  repeat' (with_reducible apply Field.ite)
  · exact .upd rfl (.refl t r) _                                           -- 0x0005 GPSAltitudeRef
  · exact .upd rfl (.refl t r) _                                           -- 0x0001 GPSLatitudeRef
  · exact .upd rfl (.refl t r) _                                           -- 0x0003 GPSLongitudeRef
  · exact .set (parseGPSAlt_spec r t) _                                    -- 0x0006 GPSAltitude
  · exact .set (parseGPSCoord_spec r t) _                                  -- 0x0002 GPSLatitude
  · exact .set (parseGPSCoord_spec r t) _                                  -- 0x0004 GPSLongitude
  · exact .set (parseGPSTime_spec r t) _                                   -- 0x0007 GPSTimeStamp
  · exact .set (parseGPSDate_spec r t) _                                   -- 0x001d GPSDateStamp
  · exact .refl t r                                                        -- any other tag

namespace FieldP
variable {t : Tag} {r r1 : R} {β γ : Type}

theorem ok {v : β} (he : r1.ex = r.ex) (hE : Eff t r r1) : FieldP t r (.ok (r1, v)) (.ok v) := Ret.ok ⟨rfl, he, hE⟩

theorem ite {c : Prop} [Decidable c] {a b : Outcome (R × β)} {a' b' : Outcome β} (ha : FieldP t r a a') (hb : FieldP t r b b') :
    FieldP t r (if c then a else b) (if c then a' else b') := by split <;> assumption

theorem bindP {x : Outcome (R × β)} {xv : Outcome β} {f : R × β → Outcome (R × γ)} {g : β → Outcome γ} (hx : FieldP t r x xv)
    (hf : ∀ r1 v, r1.ex = r.ex → Eff t r r1 → FieldP t r (f (r1, v)) (g v)) : FieldP t r (x >>= f) (xv >>= g) := by
  obtain ⟨⟨r1, v⟩, rfl, rfl, he, hE⟩ := hx; exact hf r1 v he hE

theorem bindN {x : Outcome β} {f : β → Outcome (R × γ)} {g : β → Outcome γ} (hx : ∃ v, x = .ok v)
    (hf : ∀ v, FieldP t r (f v) (g v)) : FieldP t r (x >>= f) (x >>= g) := by
  obtain ⟨v, rfl⟩ := hx; exact hf v

end FieldP

theorem parseExifIfd_field (r : R) (t : Tag) :
    Field t r (parseExifIfd r t) (parseExifIfdV r.ex t (readTagValue r t).buf (readTagValue r t).err) := by
  unfold parseExifIfd parseExifIfdV
  repeat' (with_reducible apply Field.ite)
  · exact .set (parseString_spec r t) _                                    -- 0xa433 LensMake
  · exact .set (parseString_spec r t) _                                    -- 0xa434 LensModel
  · exact .set (parseString_spec r t) _                                    -- 0xa435 LensSerialNumber
  · exact .set (parseString_spec r t) _                                    -- 0xa430 CameraOwnerName, no artist yet
  · exact .refl t r                                                        --        … artist already set
  · exact .set (parseString_spec r t) _                                    -- 0xa431 BodySerialNumber, no serial number yet
  · exact .refl t r                                                        --        … already set
  · exact .setN (parseUint32_ok t) _                                       -- 0xa002 PixelXDimension, width still 0
  · exact .refl t r                                                        --        … already set
  · exact .setN (parseUint32_ok t) _                                       -- 0xa003 PixelYDimension, height still 0
  · exact .refl t r                                                        --        … already set
  · exact .bindP (parseRationalU_spec r t) fun _ _ e h => .upd e h _       -- 0x829a ExposureTime, rational
  · exact .upd rfl (.refl t r) _                                           --        … any other type
  · exact .bindP (parseRationalU_spec r t) fun _ _ e h => .upd e h _       -- 0x9202 ApertureValue, FNumber still 0.0
  · exact .refl t r                                                        --        … already set
  · exact .bindP (parseRationalU_spec r t) fun _ _ e h => .upd e h _       -- 0x829d FNumber, rational
  · exact .upd rfl (.refl t r) _                                           --        … any other type
  · exact .setN (parseUint16_ok t) _                                       -- 0x8822 ExposureProgram
  · exact .bindP (parseRationalU_spec r t) fun _ _ e h => .upd e h _       -- 0x9204 ExposureBiasValue, out of line
  · exact .upd rfl (.refl t r) _                                           --        … embedded
  · exact .setN (parseUint16_ok t) _                                       -- 0xa402 ExposureMode
  · exact .setN (parseUint16_ok t) _                                       -- 0x9207 MeteringMode
  · exact .setN (parseUint32_ok t) _                                       -- 0x8827 ISOSpeedRatings
  · exact .setN (parseUint16_ok t) _                                       -- 0x9209 Flash
  · -- 0x920a FocalLength / 0xa405 FocalLengthIn35mmFilm: the value is chosen by an inner if-chain before the field
    -- is picked
    exact .bindP (.ite (.bindN (parseUint32_ok t) fun _ => .ok rfl (.refl t r))
      (.ite (.bindP (parseRationalU_spec r t) fun _ _ e h => .ok e h) (.ok rfl (.refl t r))))
      fun _ _ e h => .ite (.upd e h _) (.upd e h _)
  · exact .set (parseLensInfo_spec r t) _                                  -- 0xa432 LensSpecification
  · exact .set (parseDate_spec r t) _                                      -- 0x9003 DateTimeOriginal
  · exact .set (parseDate_spec r t) _                                      -- 0x9004 DateTimeDigitized
  · exact .set (parseSubSec_spec r t) _                                    -- 0x9290 SubSecTime
  · exact .set (parseSubSec_spec r t) _                                    -- 0x9291 SubSecTimeOriginal
  · exact .set (parseSubSec_spec r t) _                                    -- 0x9292 SubSecTimeDigitized
  · exact .set (parseOffsetTime_spec r t) _                                -- 0x9010 OffsetTime
  · exact .set (parseOffsetTime_spec r t) _                                -- 0x9011 OffsetTimeOriginal
  · exact .set (parseOffsetTime_spec r t) _                                -- 0x9012 OffsetTimeDigitized
  · exact .refl t r                                                        -- any other tag

theorem parseIfd0_field (tb : Tables) (r : R) (t : Tag) :
    Field t r (parseIfd0 tb r t) (parseIfd0V tb r.ex t (readTagValue r t).buf (readTagValue r t).err) := by
  unfold parseIfd0 parseIfd0V
  repeat' (with_reducible apply Field.ite)
  · refine .bindP (parseBytes_spec r t true) fun r1 s e h => ?_            -- 0x010f Make
    dsimp only
    cases tb.makeOfString s <;> exact .updA e h _ _
  · refine .bindP (parseBytes_spec r t true) fun r1 s e h => ?_            -- 0x0110 Model
    dsimp only
    rw [e]
    generalize (if r.ex.cameraMake = canonMake then tb.canonModel s else if r.ex.cameraMake = appleMake then tb.appleModel s else none) = hit
    rcases hit with _ | ⟨m, name⟩
    · exact .updA e h _ _
    · exact .upd e h _
  · exact .set (parseString_spec r t) _                                    -- 0x013b Artist
  · exact .set (parseString_spec r t) _                                    -- 0x8298 Copyright
  · exact .setN (parseUint32_ok t) _                                       -- 0x0100 ImageWidth
  · exact .setN (parseUint32_ok t) _                                       -- 0x0101 ImageLength
  · exact .setN (parseUint32_ok t) _                                       -- 0x0111 StripOffsets
  · exact .setN (parseUint32_ok t) _                                       -- 0x0117 StripByteCounts
  · exact .setN (parseUint16_ok t) _                                       -- 0x0112 Orientation
  · exact .set (parseString_spec r t) _                                    -- 0x0131 Software
  · exact .set (parseString_spec r t) _                                    -- 0x010e ImageDescription
  · exact .set (parseDate_spec r t) _                                      -- 0x0132 DateTime
  · split                                                                  -- 0xc612 DNGVersion
    · exact .upd rfl (.refl t r) _
    · exact .refl t r
  · exact .set (parseString_spec r t) _                                    -- 0xc62f CameraSerialNumber, none yet
  · exact .refl t r                                                        --        … already set
  · exact .refl t r                                                        -- any other tag

theorem parseTag0_field (tb : Tables) (r : R) (t : Tag) :
    Field t r (parseTag0 tb r t) (parseTagV tb r.ex t (readTagValue r t).buf (readTagValue r t).err) := by
  unfold parseTag0 parseTagV
  exact .ite (parseIfd0_field tb r t) (.ite (parseExifIfd_field r t) (.ite (parseGpsIfd_field r t) (.refl t r)))

/-- **The shape of `parseTag`.**  It always returns; the reader it returns is `r` or the reader after the one read of `t`
(up to the record and the allocation counter) with `t` appended to the parse record; the record is `parseTagV` of the read. -/
theorem parseTag_shape (tb : Tables) (r : R) (t : Tag) :
    ∃ r0, parseTag tb r t = .ok { r0 with parsed := r0.parsed ++ [t] } ∧ parseTag0 tb r t = .ok r0 ∧
      parseTagV tb r.ex t (readTagValue r t).buf (readTagValue r t).err = .ok r0.ex ∧ Eff t r r0 := by
  obtain ⟨r0, h0, hv, hE⟩ := parseTag0_field tb r t
  exact ⟨r0, by unfold parseTag; rw [h0]; rfl, h0, hv, hE⟩

theorem Eff.one {t : Tag} {r r' : R} (h : Eff t r r') : One t r r' := by
  obtain ⟨r0, h0, h1⟩ := h
  have hs : Same r0 r' := by rw [h1]; exact ⟨rfl, rfl, rfl, rfl, rfl, rfl, rfl⟩
  rcases h0 with rfl | ⟨rfl, hr⟩
  · exact Or.inl hs
  · exact Or.inr ⟨hs, hr⟩

theorem Eff.fr {t : Tag} {r r' : R} (h : Eff t r r') : Fr r r' := by
  obtain ⟨r0, h0, h1⟩ := h
  have h2 : Fr r0 r' := by rw [h1]; exact ⟨rfl, rfl, Nat.le_refl _, rfl⟩
  rcases h0 with rfl | ⟨rfl, _⟩
  · exact h2
  · exact (Fr.readTagValue r t).trans h2

theorem FrP.parseLensInfo (r : R) (t : Tag) : FrP (parseLensInfo r t) r :=
  fun _ _ h => ((parseLensInfo_spec r t).post h).2.2.fr

theorem OneP.parseLensInfo (r : R) (t : Tag) : OneP t (parseLensInfo r t) r :=
  fun _ _ h => ((parseLensInfo_spec r t).post h).2.2.one

theorem ValP.parseLensInfo (r : R) (t : Tag) :
    ValP (parseLensInfo r t) r (parseLensInfoV t (readTagValue r t).buf (readTagValue r t).err) := by
  obtain ⟨p, hp, hv, he, _⟩ := parseLensInfo_spec r t
  exact ⟨fun r1 v h => by rw [hp] at h; cases h; exact he, by rw [hp, hv]; rfl⟩

theorem NF.parseLensInfo (r : R) (t : Tag) : NF (parseLensInfo r t) := ⟨(parseLensInfo_spec r t).ne_fuel⟩

theorem NF.parseUint32 (t : Tag) : NF (parseUint32 t) := by
  obtain ⟨v, h⟩ := parseUint32_ok t; rw [h]; exact NF.ok v

theorem FrO.parseTag0 (tb : Tables) (r : R) (t : Tag) : FrO (parseTag0 tb r t) r :=
  fun _ h => ((parseTag0_field tb r t).post h).2.fr

theorem ValO.parseTag0 (tb : Tables) (r : R) (t : Tag) :
    ValO (parseTag0 tb r t) (parseTagV tb r.ex t (readTagValue r t).buf (readTagValue r t).err) := by
  obtain ⟨r0, h0, hv, _⟩ := parseTag0_field tb r t
  unfold ValO; rw [h0, hv]; rfl

theorem parseTag_ok {tb : Tables} {r r' : R} {t : Tag} (h : parseTag tb r t = .ok r') :
    ∃ r0, parseTag0 tb r t = .ok r0 ∧ r' = { r0 with parsed := r0.parsed ++ [t] } := by
  obtain ⟨r0, hp, h0, _⟩ := parseTag_shape tb r t
  rw [hp] at h; cases h; exact ⟨r0, h0, rfl⟩

theorem parseTag_parsed {tb : Tables} {r r1 : R} {t : Tag} (h : parseTag tb r t = .ok r1) : r1.parsed = r.parsed ++ [t] := by
  obtain ⟨r0, hp, _, _, hE⟩ := parseTag_shape tb r t
  rw [hp] at h; cases h
  exact congrArg (· ++ [t]) hE.fr.parsed

theorem OneO.parseTag (tb : Tables) (r : R) (t : Tag) : OneO t (parseTag tb r t) r := by
  intro r' h
  obtain ⟨r0, hp, _, _, hE⟩ := parseTag_shape tb r t
  rw [hp] at h; cases h
  rcases hE.one with hs | ⟨hs, hr⟩
  · exact Or.inl ⟨hs.rest, hs.po, hs.exl, hs.buffered, hs.tags, hs.pos, hs.reads⟩
  · exact Or.inr ⟨⟨hs.rest, hs.po, hs.exl, hs.buffered, hs.tags, hs.pos, hs.reads⟩, hr⟩

theorem ValO.parseTag (tb : Tables) (r : R) (t : Tag) :
    ValO (parseTag tb r t) (parseTagV tb r.ex t (readTagValue r t).buf (readTagValue r t).err) := by
  obtain ⟨r0, hp, _, hv, _⟩ := parseTag_shape tb r t
  unfold ValO; rw [hp, hv]; rfl

/-- **The streaming field parsers are functions of the record so far and of their one read.**  Whatever the reader's
stream, position, pending tags or limits: if parseTag succeeds its record is `parseTagV` of the old record, the tag, and
the bytes / error of `readTagValue r t`; errors and panics correspond. -/
theorem parseTag_value (tb : Tables) (r : R) (t : Tag) :
    omap (fun r' => r'.ex) (parseTag tb r t) = parseTagV tb r.ex t (readTagValue r t).buf (readTagValue r t).err :=
  ValO.parseTag tb r t

theorem NF.parseTag (tb : Tables) (r : R) (t : Tag) : NF (parseTag tb r t) := by
  obtain ⟨r0, hp, _⟩ := parseTag_shape tb r t
  rw [hp]; exact NF.ok _

theorem parseTag_np (tb : Tables) (r : R) (t : Tag) : NP (parseTag tb r t) := by
  obtain ⟨r0, hp, _⟩ := parseTag_shape tb r t
  rw [hp]; rfl

theorem not_reads (t : Tag) (hq : ¬ Reads t) :
    t.isEmbedded = true ∧ isASCII t = false ∧ t.typ ≠ tASCII ∧ isRat t = false ∧ t.typ ≠ tRational := by
  simpa only [Reads, not_or, Bool.not_eq_false, Bool.not_eq_true] using hq

section
variable (t : Tag) (hq : ¬ Reads t) (b1 : Bytes) (e1 : Option ErrKind) (b2 : Bytes) (e2 : Option ErrKind)
include hq

theorem parseBytesV_quiet (s : Bool) : parseBytesV t s b1 e1 = parseBytesV t s b2 e2 := by
  unfold parseBytesV; rw [if_pos (not_reads t hq).1, if_pos (not_reads t hq).1]
theorem parseStringV_quiet : parseStringV t b1 e1 = parseStringV t b2 e2 := by
  unfold parseStringV; rw [parseBytesV_quiet t hq b1 e1 b2 e2]
theorem parseRationalUV_quiet : parseRationalUV t b1 e1 = parseRationalUV t b2 e2 := by
  unfold parseRationalUV; simp [(not_reads t hq).2.2.2.1]
theorem parseDateV_quiet : parseDateV t b1 e1 = parseDateV t b2 e2 := by
  unfold parseDateV; rw [if_neg (not_reads t hq).2.2.1, if_neg (not_reads t hq).2.2.1]
theorem parseOffsetTimeV_quiet : parseOffsetTimeV t b1 e1 = parseOffsetTimeV t b2 e2 := by
  unfold parseOffsetTimeV; rw [if_neg (not_reads t hq).2.2.1, if_neg (not_reads t hq).2.2.1]
theorem parseSubSecV_quiet : parseSubSecV t b1 e1 = parseSubSecV t b2 e2 := by
  unfold parseSubSecV; simp [(not_reads t hq).2.1]
theorem parseLensInfoV_quiet : parseLensInfoV t b1 e1 = parseLensInfoV t b2 e2 := by
  unfold parseLensInfoV; simp [(not_reads t hq).1]
theorem parseGPSCoordV_quiet : parseGPSCoordV t b1 e1 = parseGPSCoordV t b2 e2 := by
  unfold parseGPSCoordV; simp [(not_reads t hq).2.2.2.1]
theorem parseGPSAltV_quiet : parseGPSAltV t b1 e1 = parseGPSAltV t b2 e2 := by
  unfold parseGPSAltV; simp [(not_reads t hq).2.2.2.1]
theorem parseGPSTimeV_quiet : parseGPSTimeV t b1 e1 = parseGPSTimeV t b2 e2 := by
  unfold parseGPSTimeV; simp [(not_reads t hq).2.2.2.2]
theorem parseGPSDateV_quiet : parseGPSDateV t b1 e1 = parseGPSDateV t b2 e2 := by
  unfold parseGPSDateV; rw [if_neg (not_reads t hq).2.2.1, if_neg (not_reads t hq).2.2.1]

theorem parseTagV_quiet (tb : Tables) (ex : Rec) : parseTagV tb ex t b1 e1 = parseTagV tb ex t b2 e2 := by
  unfold parseTagV parseIfd0V parseExifIfdV parseGpsIfdV
  rw [parseBytesV_quiet t hq b1 e1 b2 e2, parseStringV_quiet t hq b1 e1 b2 e2, parseRationalUV_quiet t hq b1 e1 b2 e2,
    parseDateV_quiet t hq b1 e1 b2 e2, parseOffsetTimeV_quiet t hq b1 e1 b2 e2, parseSubSecV_quiet t hq b1 e1 b2 e2,
    parseLensInfoV_quiet t hq b1 e1 b2 e2, parseGPSCoordV_quiet t hq b1 e1 b2 e2, parseGPSAltV_quiet t hq b1 e1 b2 e2,
    parseGPSTimeV_quiet t hq b1 e1 b2 e2, parseGPSDateV_quiet t hq b1 e1 b2 e2]
end

end Imeta.Exif
