/-
  C02 — the header search asks its source for at most `budget` bytes (`scanC_spec`; Props/C02 derives len + 2·S from it,
  S the capacity of the bufio.Reader), and its outcome is that of the scan model whatever the fill level.
-/
import Imeta.Model.TiffReq
namespace Imeta.Tiff
open Imeta

/-- the budget: what was requested, what the source still holds, and one buffer for the Read that exhausts the source
plus one for the Read that finds it empty -/
def budget (S : Nat) (s : Cnt) : Nat := s.req + s.srcLeft + S * (if s.srcLeft = 0 then 1 else 2)

theorem peekC_spec (S : Nat) (s : Cnt) (n : Nat) (hn : n ≤ S) (hS : s.buffered ≤ S) (s1 : Cnt) (ok : Bool)
    (h : peekC S s n = (s1, ok)) :
    (ok = true ↔ n ≤ s.buffered + s.srcLeft) ∧
    s1.buffered + s1.srcLeft = s.buffered + s.srcLeft ∧ s1.buffered ≤ S ∧
    (ok = true → n ≤ s1.buffered ∧ budget S s1 ≤ budget S s) ∧
    (ok = false → s1.req ≤ budget S s) := by
  unfold peekC at h
  by_cases h1 : n ≤ s.buffered
  · -- enough is buffered: no Read
    rw [if_pos h1] at h
    obtain ⟨rfl, rfl⟩ := Prod.mk.inj h
    exact ⟨⟨fun _ => by omega, fun _ => rfl⟩, rfl, hS, fun _ => ⟨h1, Nat.le_refl _⟩, fun hc => (nomatch hc)⟩
  rw [if_neg h1] at h
  by_cases h2 : min (S - s.buffered) s.srcLeft = 0
  · -- the Read comes back empty: the source was exhausted before, and the budget holds one buffer for this Read
    rw [if_pos h2] at h
    obtain ⟨rfl, rfl⟩ := Prod.mk.inj h
    have hz : s.srcLeft = 0 := by omega
    refine ⟨⟨fun hc => (nomatch hc), fun hc => (by omega)⟩, rfl, hS, fun hc => (nomatch hc), fun _ => ?_⟩
    unfold budget
    simp only [hz, if_true]
    omega
  rw [if_neg h2] at h
  have hne : s.srcLeft ≠ 0 := by omega
  by_cases h3 : n ≤ s.buffered + min (S - s.buffered) s.srcLeft
  · -- one Read brings `n`: it got all it asked for, or it exhausted the source and the budget drops its second buffer
    rw [if_pos h3] at h
    obtain ⟨rfl, rfl⟩ := Prod.mk.inj h
    refine ⟨⟨fun _ => by omega, fun _ => rfl⟩, by dsimp only; omega, by dsimp only; omega, fun _ => ⟨h3, ?_⟩, fun hc => (nomatch hc)⟩
    unfold budget
    simp only [hne, if_false]
    split <;> omega
  · -- the Read exhausts the source short of `n` and a second one finds it empty: both buffers of the budget are spent
    rw [if_neg h3] at h
    obtain ⟨rfl, rfl⟩ := Prod.mk.inj h
    refine ⟨⟨fun hc => (nomatch hc), fun hc => (by omega)⟩, by dsimp only; omega, by dsimp only; omega, fun hc => (nomatch hc), fun _ => ?_⟩
    unfold budget
    simp only [hne, if_false]
    omega

theorem scanC_spec (S : Nat) (hS : headerLength ≤ S) : ∀ (fuel : Nat) (b : Bytes) (d : Nat) (s : Cnt),
    s.buffered + s.srcLeft = b.length → s.buffered ≤ S →
    (scanC S fuel b d s).1 = scan fuel b d ∧ (scanC S fuel b d s).2.req ≤ budget S s := by
  intro fuel
  induction fuel with
  | zero => intro b d s _ _; exact ⟨rfl, by unfold scanC budget; dsimp only; omega⟩
  | succ fuel ih =>
    intro b d s hinv hb
    unfold scanC scan
    cases hp : peekC S s headerLength with
    | mk s1 ok =>
      obtain ⟨hok, hsum, hle, hT, hF⟩ := peekC_spec S s headerLength hS hb s1 ok hp
      cases ok with
      | false =>
        -- Peek fails: fewer than `headerLength` bytes are left, `scan` gives up as well
        have hlt : lenLt b headerLength = true := by
          unfold lenLt; simp only [decide_eq_true_eq]; exact Nat.lt_of_not_le fun h => by have := hok.2 (by omega); cases this
        rw [if_pos hlt]
        exact ⟨rfl, hF rfl⟩
      | true =>
        have h32 : headerLength ≤ b.length := by have := hok.1 rfl; omega
        have hlt : lenLt b headerLength = false := by unfold lenLt; simp; omega
        -- Peek succeeds within the budget; Discard of 1 or 2 buffered bytes asks nothing of the source, so the rest of the
        -- loop runs under the same budget (`next`)
        obtain ⟨hb1, hbud⟩ := hT rfl
        simp only [hlt, Bool.false_eq_true, if_false]
        unfold headerLength at hb1 h32
        have next : ∀ k, k ≤ 2 → (scanC S fuel (b.drop k) (d + k) (discardC s1 k)).1 = scan fuel (b.drop k) (d + k) ∧
            (scanC S fuel (b.drop k) (d + k) (discardC s1 k)).2.req ≤ budget S s := fun k hk =>
          let h := ih (b.drop k) (d + k) (discardC s1 k) (by simp only [discardC, List.length_drop]; omega) (by simp only [discardC]; omega)
          ⟨h.1, Nat.le_trans h.2 hbud⟩
        split
        · exact ⟨rfl, by unfold budget at hbud ⊢; dsimp only; omega⟩
        · split
          · exact next 1 (by omega)
          · exact next 2 (by omega)

end Imeta.Tiff
