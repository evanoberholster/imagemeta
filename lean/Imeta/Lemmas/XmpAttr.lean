/-
  C13: attribute form.  The value reader on the window that holds the closing quote, whatever follows the quote
  (`attr_value_hit`), and on one that does not (`attr_value_retry`, `attr_value_miss`); a value of any length the three windows
  can hold (`readAttrValue_any`); a whole attribute `ns:name=q v q` behind any white space (`readAttribute_any`); a whole
  attribute list, below a tag or below an array item (`attrLoop_any`).
  `attr_value_exact`, `attr_value_retry`, `attr_value_window_exceeded` stand here under `namespace Imeta.Props.C13`: they are
  property theorems of C13; the first follows from `attr_value_hit`, and `attr_value_miss` below uses the second.
-/
import Imeta.Lemmas.XmpStep
namespace Imeta.Xmp

/-- what ends an attribute value: the bytes consumed behind the closing quote, whether the attribute list is over, whether
the tag is self-closing — as readAttrValue decides from the two bytes behind the quote -/
def attrEnd (c1 c2 : UInt8) : Nat × Bool × Bool :=
  if c1 == 62 then (1, true, false) else if c1 == 47 && c2 == 62 then (2, true, true) else (0, false, false)

def attrDone (tag : Tag) (st : St) (v rest : Bytes) (c1 c2 : UInt8) : Except XErr (Bytes × Tag) × St :=
  (.ok (v, if (attrEnd c1 c2).2.2 then { tag with t := .solo } else tag),
   { st with rest := rest, a := if (attrEnd c1 c2).2.1 then false else st.a })

theorem attr_value_hit (tag : Tag) (f sz : Nat) (st : St) (v t' : Bytes) (q c1 c2 : UInt8)
    (hq : q = 34 ∨ q = 39) (hv : ∀ x ∈ v, (x == q) = false)
    (hbuf : peek sz st = (.ok (61 :: q :: (v ++ q :: c1 :: c2 :: t')), st)) :
    readAttrValue tag (f + 1) sz st = attrDone tag st v (st.rest.drop (v.length + 3 + (attrEnd c1 c2).1)) c1 c2 := by
  -- the bytes that go: `=`, both quotes, the value, and what `attrEnd` says
  rw [show v.length + 3 + (attrEnd c1 c2).1 = 2 + v.length + 1 + (attrEnd c1 c2).1 by omega]
  unfold readAttrValue attrDone
  rw [bind_ok hbuf, bind_ok (at_ok _ 0 61 st rfl)]
  -- the '=' and, directly behind it, the quote; the search for the closing quote ends behind `v`
  have hq1 : idxFrom (fun b => !isWs b) (61 :: q :: (v ++ q :: c1 :: c2 :: t')) 1 = 1 := by
    rw [idxFrom_cons_succ, idxFrom_head _ _ _ (by rcases hq with h | h <;> subst h <;> decide)]
  have hcond : ((61 : UInt8) == 61 && (q == 34 || q == 39)) = true := by rcases hq with h | h <;> subst h <;> decide
  have hk : (List.drop 2 (61 :: q :: (v ++ q :: c1 :: c2 :: t'))).findIdx (fun x => x == q) = v.length :=
    findIdx_stretch _ v _ q hv (beq_self_eq_true q)
  have hc1 : (61 :: q :: (v ++ q :: c1 :: c2 :: t') : Bytes)[2 + v.length + 1]? = some c1 :=
    getElem?_prefix (61 :: q :: (v ++ [q])) c1 (c2 :: t') (by simp) (by simp; omega)
  have hc2 : (61 :: q :: (v ++ q :: c1 :: c2 :: t') : Bytes)[2 + v.length + 2]? = some c2 :=
    getElem?_prefix (61 :: q :: (v ++ [q, c1])) c2 t' (by simp) (by simp; omega)
  have hval : List.take (2 + v.length - 2) (List.drop 2 (61 :: q :: (v ++ q :: c1 :: c2 :: t'))) = v :=
    List.take_left' (by omega)
  simp only [hq1, Nat.reduceAdd, Nat.add_one_sub_one, List.getD_cons_succ, List.getD_cons_zero, hcond, if_true, hk, hval]
  -- the quote and two more bytes are in the window; `c1`, and `c2` behind a '/', decide how the value ends
  rw [if_pos (by simp; omega), bind_ok (at_ok _ _ c1 st hc1)]
  unfold attrEnd
  by_cases h62 : (c1 == 62) = true
  · simp only [h62, if_true]; rfl
  by_cases h47 : (c1 == 47) = true
  · simp only [h62, h47, Bool.false_eq_true, if_false, if_true, Bool.true_and]
    rw [bind_ok (at_ok _ _ c2 st hc2)]
    by_cases hc : (c2 == 62) = true
    · simp only [hc, if_true]; rfl
    · simp only [hc, Bool.false_eq_true, if_false]; rfl
  · simp only [h62, h47, Bool.false_eq_true, if_false, Bool.false_and]; rfl

end Imeta.Xmp

namespace Imeta.Props.C13
open Imeta.Xmp

/-- **Attribute form, one look-ahead window.** If the window starts with `=`, a quote character q, a value v that does
not contain q, the closing q and at least two more bytes, the first of which is neither '>' nor '/', then the reader
returns exactly v and consumes `=`, both quotes and v — nothing of what follows. -/
theorem attr_value_exact (tag : Tag) (f sz : Nat) (st : St) (v t' : Bytes) (q c1 c2 : UInt8)
    (hq : q = 34 ∨ q = 39) (hv : ∀ x ∈ v, (x == q) = false)
    (hbuf : peek sz st = (.ok ([61, q] ++ v ++ [q, c1, c2] ++ t'), st)) (h62 : c1 ≠ 62) (h47 : c1 ≠ 47) :
    readAttrValue tag (f + 1) sz st = (.ok (v, tag), { st with rest := st.rest.drop (v.length + 3) }) := by
  rw [attr_value_hit tag f sz st v t' q c1 c2 hq hv (by simpa using hbuf)]
  simp [attrDone, attrEnd, h62, h47]

/-- **Attribute form, a window that is too small.** When the closing quote and the two bytes after it are not all inside
the window, nothing is consumed and the next, larger window is tried: the outcome does not depend on where the
window boundaries fall.  (`o`: index after the opening quote, the first non-blank byte after the '='.) -/
theorem attr_value_retry (tag : Tag) (f sz : Nat) (st : St) (buf : Bytes) (b0 b1 : UInt8) (o : Nat)
    (hbuf : peek sz st = (.ok buf, st)) (h0 : buf[0]? = some b0)
    (ho : idxFrom (fun b => !isWs b) buf 1 + 1 = o) (h1 : buf.getD (o - 1) 0 = b1)
    (hmiss : ¬ (b0 == 61 && (b1 == 34 || b1 == 39)) = true ∨ ¬ (o + (buf.drop o).findIdx (fun x => x == b1) + 2 < buf.length)) :
    readAttrValue tag (f + 1) sz st = readAttrValue tag f (sz + 512) st := by
  conv => lhs; unfold readAttrValue
  rw [bind_ok hbuf, bind_ok (at_ok _ 0 b0 st h0)]
  simp only [ho, h1]
  rcases hmiss with h | h
  · rw [if_neg h]
  · by_cases hc : (b0 == 61 && (b1 == 34 || b1 == 39)) = true
    · rw [if_pos hc]; (try dsimp only); rw [if_neg h]
    · rw [if_neg hc]

/-- **A value that fits no window gives an error, never a value.** -/
theorem attr_value_window_exceeded (tag : Tag) (f sz : Nat) (st : St) (h : sz > W) :
    (readAttrValue tag (f + 1) sz st).1 = Except.error XErr.bufferFull := by
  unfold readAttrValue
  have : peek sz st = (Except.error XErr.bufferFull, st) := by unfold peek; rw [if_pos h]
  rw [bind_err this]

end Imeta.Props.C13

namespace Imeta.Xmp
open Imeta.Props.C13

theorem attr_value_close (tag : Tag) (f sz : Nat) (st : St) (v t' : Bytes) (q c2 : UInt8)
    (hq : q = 34 ∨ q = 39) (hv : ∀ x ∈ v, (x == q) = false)
    (hbuf : peek sz st = (.ok ([61, q] ++ v ++ [q, 62, c2] ++ t'), st)) :
    readAttrValue tag (f + 1) sz st = (.ok (v, tag), { st with rest := st.rest.drop (v.length + 4), a := false }) := by
  rw [attr_value_hit tag f sz st v t' q 62 c2 hq hv (by simpa using hbuf)]
  simp [attrDone, attrEnd]

theorem attr_value_miss (tag : Tag) (f sz : Nat) (st : St) (v t'' : Bytes) (q a b : UInt8)
    (hq : q = 34 ∨ q = 39) (hv : ∀ x ∈ v, (x == q) = false) (hsz : sz ≤ W) (h2 : 2 ≤ sz) (hmiss : sz < v.length + 5)
    (hr : st.rest = 61 :: q :: (v ++ q :: a :: b :: t'')) :
    readAttrValue tag (f + 1) sz st = readAttrValue tag f (sz + 512) st := by
  have hL : st.rest.length = v.length + 5 + t''.length := by rw [hr]; simp; omega
  have hq' : (!isWs q) = true := by rcases hq with h | h <;> subst h <;> decide
  refine attr_value_retry tag f sz st (st.rest.take sz) 61 q 2 (peek_take sz st hsz (by omega))
    (by rw [List.getElem?_take, if_pos (by omega), hr]; rfl)
    (by rw [idxFrom_take _ _ (by omega), hr, idxFrom_cons_succ, idxFrom_head _ _ _ hq']; omega)
    (by rw [hr]; obtain ⟨s, rfl⟩ : ∃ s, sz = s + 2 := ⟨sz - 2, by omega⟩; rfl) (Or.inr ?_)
  -- the search for the closing quote ends at the end of the value or of the window, whichever comes first
  rw [List.drop_take, List.findIdx_take, hr]
  show ¬ 2 + min (sz - 2) ((v ++ q :: a :: b :: t'').findIdx (fun x => x == q)) + 2 < _
  rw [findIdx_stretch _ v _ q hv (beq_self_eq_true q), List.length_take]
  omega

/-- **An attribute value of any length up to 1275 bytes, whatever ends it**, whichever of the three windows it ends in.
5 = the '=', the two quotes and the two bytes that must follow the closing quote inside the window (readAttrValue's
`i+b+2 < len(buf)`); 1280 = 256 + 2·512, the third and last window below W. -/
theorem readAttrValue_any (tag : Tag) (st : St) (v t'' : Bytes) (q c1 c2 : UInt8)
    (hq : q = 34 ∨ q = 39) (hv : ∀ x ∈ v, (x == q) = false) (hlen : v.length + 5 ≤ 1280)
    (hr : st.rest = 61 :: q :: (v ++ q :: c1 :: c2 :: t'')) :
    readAttrValue tag 8 256 st = attrDone tag st v ((c1 :: c2 :: t'').drop (attrEnd c1 c2).1) c1 c2 := by
  have hL : st.rest.length = v.length + 5 + t''.length := by rw [hr]; simp; omega
  have hW : 1280 ≤ W := by decide
  have hit : ∀ (f sz : Nat), sz ≤ W → v.length + 5 ≤ sz →
      readAttrValue tag (f + 1) sz st = attrDone tag st v ((c1 :: c2 :: t'').drop (attrEnd c1 c2).1) c1 c2 := fun f sz hsz hfit => by
    have hp := peek_take sz st hsz (by omega)
    rw [hr, show (61 :: q :: (v ++ q :: c1 :: c2 :: t'') : Bytes) = (61 :: q :: (v ++ [q, c1, c2])) ++ t'' by simp,
      take_prefix _ _ (by simp; omega)] at hp
    rw [attr_value_hit tag f sz st v _ q c1 c2 hq hv (by simpa using hp), ← List.drop_drop, hr,
      show (61 :: q :: (v ++ q :: c1 :: c2 :: t'') : Bytes) = (61 :: q :: (v ++ [q])) ++ c1 :: c2 :: t'' by simp, List.drop_left' (by simp)]
  by_cases h1 : v.length + 5 ≤ 256
  · exact hit 7 256 (by omega) h1
  · rw [attr_value_miss tag 7 256 st v t'' q c1 c2 hq hv (by omega) (by omega) (by omega) hr]
    by_cases h2 : v.length + 5 ≤ 768
    · exact hit 6 768 (by omega) h2
    · rw [attr_value_miss tag 6 768 st v t'' q c1 c2 hq hv (by omega) (by omega) (by omega) hr]
      exact hit 5 1280 (by omega) hlen

theorem parseAttrName_exact (n0 : UInt8) (ns : Bytes) (m0 : UInt8) (name w : Bytes)
    (h0 : isWs n0 = false) (hns : ∀ x ∈ ns, (x == 58) = false) (hname : ∀ x ∈ name, (x == 61 || isWs x) = false) :
    parseAttrName (n0 :: (ns ++ 58 :: m0 :: (name ++ 61 :: w))) =
      some (identify (n0 :: ns) (m0 :: name), ns.length + name.length + 3) := by
  unfold parseAttrName
  simp only [idxFrom_head (fun b => !isWs b) n0 _ (by simp [h0]), idxFrom_cons_succ, idxFrom_append_add, idxFrom_stretch _ ns _ 58 hns rfl,
    idxFrom_stretch _ name w 61 hname rfl]
  rw [if_pos (by simp), show ns.length + (name.length + 1 + 1) + 1 - (ns.length + 1 + 1) = name.length + 1 by omega]
  simp; omega

theorem skipAttrWs_exact (z : Bytes) (hz : z.findIdx (fun b => !isWs b) = 0) (h4 : 4 < z.length) : ∀ (f : Nat) (ws : Bytes) (st : St),
    (∀ x ∈ ws, isWs x = true) → st.rest = ws ++ z → ws.length < f →
    skipAttrWs f st = (.ok (z.take 128), { st with rest := z }) := by
  intro f
  induction f with
  | zero => intro ws st _ _ h; omega
  | succ f ih =>
    intro ws st hws hrest hf
    unfold skipAttrWs
    rw [bind_ok (peek_take 128 st (by decide) (by rw [hrest]; simp; omega))]
    -- the window's white space is the stream's, cut off at 128
    have hn : (st.rest.take 128).findIdx (fun b => !isWs b) = min 128 ws.length := by
      rw [List.findIdx_take, hrest, findIdx_skip _ _ _ (by intro x hx; simp [hws x hx]), hz]; rfl
    rw [hn]
    by_cases h0 : ws = []
    · subst h0
      subst hrest
      rfl
    · have hpos : 0 < ws.length := List.length_pos_iff.mpr h0
      rw [if_neg (by simp; omega)]
      show skipAttrWs f { st with rest := st.rest.drop (min 128 ws.length) } = _
      rw [ih (ws.drop (min 128 ws.length)) _ (fun x hx => hws x (List.mem_of_mem_drop hx))
        (by show st.rest.drop _ = _; rw [hrest, List.drop_append_of_le_length (Nat.min_le_right _ _)]) (by rw [List.length_drop]; omega)]

theorem readAttribute_name (tag : Tag) (st : St) (ws : Bytes) (n0 : UInt8) (ns : Bytes) (m0 : UInt8) (name R2 : Bytes)
    (hws : ∀ x ∈ ws, isWs x = true) (h0 : isWs n0 = false) (hst : (n0 == 62) = false ∧ (n0 == 47) = false) (hns : ∀ x ∈ ns, (x == 58) = false)
    (hname : ∀ x ∈ name, (x == 61 || isWs x) = false) (hwin : ns.length + name.length + 4 ≤ 128) (hR2 : 4 ≤ R2.length)
    (hrest : st.rest = ws ++ n0 :: (ns ++ 58 :: m0 :: (name ++ 61 :: R2))) :
    readAttribute tag st = (readAttrValue tag 8 256 >>= fun x => match x with
      | (v, tag') => pure ({ pt := 1, parent := tag.self, self := identify (n0 :: ns) (m0 :: name), val := v }, tag'))
      { st with rest := 61 :: R2 } := by
  unfold readAttribute
  rw [len_bind, bind_ok (skipAttrWs_exact _ (by simp [List.findIdx_cons, h0]) (by simp; omega) _ ws st hws hrest (by rw [hrest]; simp; omega))]
  -- the window holds the name and the '='
  obtain ⟨w, hw⟩ : ∃ w, (n0 :: (ns ++ 58 :: m0 :: (name ++ 61 :: R2)) : Bytes).take 128 = n0 :: (ns ++ 58 :: m0 :: (name ++ 61 :: w)) := by
    rw [show (n0 :: (ns ++ 58 :: m0 :: (name ++ 61 :: R2)) : Bytes) = (n0 :: (ns ++ 58 :: m0 :: (name ++ [61]))) ++ R2 by simp,
      take_prefix _ _ (by simp; omega)]
    exact ⟨R2.take _, by simp only [List.cons_append, List.append_assoc, List.nil_append]; rfl⟩
  rw [hw, parseAttrName_exact n0 ns m0 name w h0 hns hname]
  rw [if_neg (by simp [hst.1]), if_neg (by simp [hst.2])]
  show (skipAttrWs (st.rest.length + 2) >>= fun _ => _) { st with rest := (n0 :: (ns ++ 58 :: m0 :: (name ++ 61 :: R2)) : Bytes).drop (ns.length + name.length + 3) } = _
  rw [show (n0 :: (ns ++ 58 :: m0 :: (name ++ 61 :: R2)) : Bytes) = (n0 :: (ns ++ 58 :: m0 :: name)) ++ 61 :: R2 by simp, List.drop_left' (by simp; omega)]
  -- the '=' follows the name directly: the second white-space skip changes nothing
  rw [bind_ok (skipAttrWs_exact (61 :: R2) rfl (by simp; omega) _ [] { st with rest := 61 :: R2 } (fun _ h => nomatch h) rfl (by simp))]

/-- **One attribute, name and value, whatever follows the closing quote.**  After any amount of white space, `ns:name=q v q`
(name within the 128-byte look-ahead, value of any length the three windows hold) is reported as the property
`identify ns name` with exactly the value v; the white space, the name, `=`, both quotes and v are consumed, and what
`attrEnd` says of the two bytes behind the quote. -/
theorem readAttribute_any (tag : Tag) (st : St) (ws : Bytes) (n0 : UInt8) (ns : Bytes) (m0 : UInt8) (name v t'' : Bytes) (q c1 c2 : UInt8)
    (hws : ∀ x ∈ ws, isWs x = true) (h0 : isWs n0 = false) (hst : (n0 == 62) = false ∧ (n0 == 47) = false) (hns : ∀ x ∈ ns, (x == 58) = false)
    (hname : ∀ x ∈ name, (x == 61 || isWs x) = false) (hq : q = 34 ∨ q = 39) (hv : ∀ x ∈ v, (x == q) = false)
    (hwin : ns.length + name.length + 4 ≤ 128) (hvlen : v.length + 5 ≤ 1280)
    (hrest : st.rest = ws ++ (((n0 :: ns) ++ [58] ++ (m0 :: name)) ++ ([61, q] ++ v ++ [q, c1, c2] ++ t''))) :
    readAttribute tag st =
      (.ok ({ pt := 1, parent := tag.self, self := identify (n0 :: ns) (m0 :: name), val := v }, if (attrEnd c1 c2).2.2 then { tag with t := .solo } else tag),
       { st with rest := ([c1, c2] ++ t'').drop (attrEnd c1 c2).1, a := if (attrEnd c1 c2).2.1 then false else st.a }) := by
  rw [readAttribute_name tag st ws n0 ns m0 name (q :: (v ++ [q, c1, c2] ++ t'')) hws h0 hst hns hname hwin (by simp; omega) (by rw [hrest]; simp)]
  rw [bind_ok (readAttrValue_any tag _ v t'' q c1 c2 hq hv hvlen (by simp))]
  rfl

/-- an attribute as written: `n0 ns : m0 name = q v q`, first bytes of prefix and local name apart, `q` the quote -/
structure Attr where
  n0 : UInt8
  ns : Bytes
  m0 : UInt8
  name : Bytes
  q : UInt8
  v : Bytes

def Attr.bytes (a : Attr) : Bytes := ((a.n0 :: a.ns) ++ [58] ++ (a.m0 :: a.name)) ++ ([61, a.q] ++ a.v ++ [a.q])
def Attr.prop (a : Attr) : Prop2 := identify (a.n0 :: a.ns) (a.m0 :: a.name)

/-- what the theorem asks of an attribute: the prefix starts with a non-blank byte other than '>' and '/' (those end the tag) and has no further ':', the local name
has no '=' or white space after its first byte, the value does not contain its quote character, name and value fit the
reader's first look-ahead windows: `hwin`, the name with its ':' and '=' (`ns.length + name.length + 4` bytes) inside the
128 bytes readAttribute peeks for parseAttrName; `hvwin`, the value and the 5 bytes of `readAttrValue_any` inside 256 -/
structure Attr.OK (a : Attr) : Prop where
  h0 : isWs a.n0 = false
  hstart : (a.n0 == 62) = false ∧ (a.n0 == 47) = false
  hns : ∀ x ∈ a.ns, (x == 58) = false
  hname : ∀ x ∈ a.name, (x == 61 || isWs x) = false
  hq : a.q = 34 ∨ a.q = 39
  hv : ∀ x ∈ a.v, (x == a.q) = false
  hwin : a.ns.length + a.name.length + 4 ≤ 128
  hvwin : a.v.length + 5 ≤ 256

def ser : List (Bytes × Attr) → Bytes
  | [] => []
  | (ws, a) :: l => ws ++ a.bytes ++ ser l

/-- the tokens the parser layer receives (newest first): attributes with an empty value are not reported -/
def pushAll (parent : Prop2) : List (Bytes × Attr) → List Tok → List Tok
  | [], acc => acc
  | (_, a) :: l, acc => pushAll parent l (if a.v.isEmpty then acc else { pt := 1, parent := parent, self := a.prop, val := a.v } :: acc)

/-- the tokens of an item's attributes (newest first) -/
def pushAllSeq (pp : Prop2) : List (Bytes × Attr) → List Tok → List Tok
  | [], acc => acc
  | (_, a) :: l, acc => pushAllSeq pp l (if a.v.isEmpty then acc else { pt := 1, parent := a.prop, self := pp, val := a.v } :: acc)

/-- inside an array the attribute's own property becomes the parent and the array's property the property -/
def retag (seqOf : Option Prop2) (tok : Tok) : Tok :=
  match seqOf with
  | none => tok
  | some pp => { tok with parent := tok.self, self := pp }

def pushAttrs (seqOf : Option Prop2) (parent : Prop2) : List (Bytes × Attr) → List Tok → List Tok
  | [], acc => acc
  | (_, a) :: l, acc => pushAttrs seqOf parent l (if a.v.isEmpty then acc else retag seqOf { pt := 1, parent := parent, self := a.prop, val := a.v } :: acc)

theorem pushAttrs_none (parent : Prop2) (l : List (Bytes × Attr)) : ∀ acc, pushAttrs none parent l acc = pushAll parent l acc := by
  induction l with
  | nil => intro _; rfl
  | cons p l ih => intro acc; exact ih _

theorem pushAttrs_some (pp parent : Prop2) (l : List (Bytes × Attr)) : ∀ acc, pushAttrs (some pp) parent l acc = pushAllSeq pp l acc := by
  induction l with
  | nil => intro _; rfl
  | cons p l ih => intro acc; exact ih _

theorem attrLoop_noattr (seqOf : Option Prop2) (f : Nat) (tag : Tag) (st : St) (ha : st.a = false) :
    attrLoop seqOf (f + 1) tag st = (.ok tag, st) := by
  unfold attrLoop
  rw [getA_bind, ha]
  rfl

theorem attrLoop_step (seqOf : Option Prop2) (f : Nat) (tag : Tag) (st st' : St) (tok : Tok) (ha : st.a = true)
    (h : readAttribute tag st = (.ok (tok, tag), st')) :
    attrLoop seqOf (f + 1) tag st =
      attrLoop seqOf f tag { st' with toks := if tok.val.isEmpty then st'.toks else retag seqOf tok :: st'.toks } := by
  conv => lhs; unfold attrLoop
  rw [getA_bind, ha]
  simp only [if_true]
  rw [bind_ok h]
  cases seqOf <;> (dsimp only [retag]; rw [bind_ok (emit_apply _ _)])

/-- **A whole attribute list**, below a tag (`seqOf = none`) or below an array item (`some pp`) -/
theorem attrLoop_any (seqOf : Option Prop2) (tag : Tag) (c2 : UInt8) (t : Bytes) : ∀ (l : List (Bytes × Attr)) (f : Nat) (st : St),
    l ≠ [] → l.length < f → st.a = true → st.rest = ser l ++ 62 :: c2 :: t →
    (∀ p ∈ l, (∀ x ∈ p.1, isWs x = true) ∧ p.2.OK) → (∀ p ∈ l.tail, p.1 ≠ []) →
    attrLoop seqOf f tag st = (.ok tag, { rest := c2 :: t, a := false, toks := pushAttrs seqOf tag.self l st.toks }) := by
  intro l
  induction l with
  | nil => intro f st h; exact absurd rfl h
  | cons p l ih =>
    intro f st _ hf ha hrest hok hsep
    obtain ⟨ws, a⟩ := p
    have hpa := hok (ws, a) (by simp)
    obtain ⟨f, rfl⟩ : ∃ g, f = g + 1 := ⟨f - 1, by simp at hf; omega⟩
    -- the two bytes behind the closing quote: '>' and c2 after the last attribute, white space before another one
    obtain ⟨c1, d2, t'', ht, hc1⟩ : ∃ c1 d2 t'', ser l ++ 62 :: c2 :: t = c1 :: d2 :: t'' ∧ ((l = [] ∧ c1 = 62) ∨ (l ≠ [] ∧ isWs c1 = true)) := by
      cases l with
      | nil => exact ⟨62, c2, t, rfl, Or.inl ⟨rfl, rfl⟩⟩
      | cons p2 l' =>
        obtain ⟨ws2, a2⟩ := p2
        obtain ⟨w, ws2', rfl⟩ := List.exists_cons_of_ne_nil (hsep (ws2, a2) (by simp))
        obtain ⟨d2, t'', h⟩ := List.exists_cons_of_ne_nil (show (ws2' ++ a2.bytes ++ ser l' ++ 62 :: c2 :: t : Bytes) ≠ [] by simp [Attr.bytes])
        exact ⟨w, d2, t'', by rw [← h]; simp [ser], Or.inr ⟨by simp, (hok (w :: ws2', a2) (by simp)).1 w (by simp)⟩⟩
    -- one turn of the loop reads the attribute whole; what goes with it is `attrEnd c1 d2`
    have hr : st.rest = ws ++ (((a.n0 :: a.ns) ++ [58] ++ (a.m0 :: a.name)) ++ ([61, a.q] ++ a.v ++ [a.q, c1, d2] ++ t'')) := by
      rw [hrest]; simp [ser, Attr.bytes, ht]
    have hra := readAttribute_any tag st ws a.n0 a.ns a.m0 a.name a.v t'' a.q c1 d2 hpa.1 hpa.2.h0 hpa.2.hstart hpa.2.hns hpa.2.hname
      hpa.2.hq hpa.2.hv hpa.2.hwin (Nat.le_trans hpa.2.hvwin (by decide)) hr
    rcases hc1 with ⟨rfl, rfl⟩ | ⟨hl, hw⟩
    · -- the last attribute: the '>' goes with it and the next turn ends the loop
      obtain ⟨f, rfl⟩ : ∃ g, f = g + 1 := ⟨f - 1, by simp at hf; omega⟩
      rw [attrLoop_step seqOf _ tag st _ _ ha hra, attrLoop_noattr seqOf f tag _ rfl]
      cases ht; rfl
    · -- white space behind the quote: nothing more is consumed, the loop goes on with the other attributes
      have e : attrEnd c1 d2 = (0, false, false) := by simp [attrEnd, isWs_ne hw]
      simp only [e, Bool.false_eq_true, if_false, List.drop_zero] at hra
      rw [attrLoop_step seqOf _ tag st _ _ ha hra]
      exact ih f _ hl (by simp at hf ⊢; omega) ha (by rw [ht]; rfl)
        (fun p hp => hok p (List.mem_cons_of_mem _ hp)) (fun p hp => hsep p (List.mem_of_mem_tail hp))

end Imeta.Xmp
