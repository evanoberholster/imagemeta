/-
  From exact value bytes to a field of the record.  The field-parser layer `parseTagV` is a dispatch on
  (directory, tag id), and each branch applies one setter to the record (`Wr`, `parseTagV_wr`).  A field that a single
  branch writes (`Owns`) therefore holds, after the random-access decoder has run over a list of tags, what its value
  parser made of the last tag with that key and of exactly that tag's bytes (`Owns.exact`).  With the refinement theorem
  this gives field-level statements for the streaming reader.
-/
import Imeta.Lemmas.ExifForward
import Imeta.Lemmas.SimpAttr
namespace Imeta.Exif
open Imeta

/-- The write table of the field-parser layer: a tag `k` of directory `d` turns the record `ex` into `u ex` for some
`u` with `Wr d k u`.  One row per branch of `parseIfd0V`, `parseExifIfdV`, `parseGpsIfdV`; the last row stands for the
guards that fail and the tags no branch knows. -/
inductive Wr : Nat → Nat → (Rec → Rec) → Prop
  | make {mk s} : Wr ifd0 0x010f (Rec.set_cameraMake_make mk s)
  | model {m s} : Wr ifd0 0x0110 (Rec.set_cameraModel_model m s)
  | artist {s} : Wr ifd0 0x013b (Rec.set_artist s)
  | copyright {s} : Wr ifd0 0x8298 (Rec.set_copyright s)
  | width {v} : Wr ifd0 0x0100 (Rec.set_width v)
  | height {v} : Wr ifd0 0x0101 (Rec.set_height v)
  | stripOffsets {v} : Wr ifd0 0x0111 (Rec.set_stripOffsets v)
  | stripByteCounts {v} : Wr ifd0 0x0117 (Rec.set_stripByteCounts v)
  | orientation {v} : Wr ifd0 0x0112 (Rec.set_orientation v)
  | software {s} : Wr ifd0 0x0131 (Rec.set_software s)
  | description {s} : Wr ifd0 0x010e (Rec.set_description s)
  | modifyDate {v} : Wr ifd0 0x0132 (Rec.set_modifyDate v)
  | imageType {v} : Wr ifd0 0xc612 (Rec.set_imageType v)
  | cameraSerial {s} : Wr ifd0 0xc62f (Rec.set_cameraSerial s)
  | lensMake {s} : Wr exifIFD 0xa433 (Rec.set_lensMake s)
  | lensModel {s} : Wr exifIFD 0xa434 (Rec.set_lensModel s)
  | lensSerial {s} : Wr exifIFD 0xa435 (Rec.set_lensSerial s)
  | artistE {s} : Wr exifIFD 0xa430 (Rec.set_artist s)
  | cameraSerialE {s} : Wr exifIFD 0xa431 (Rec.set_cameraSerial s)
  | widthE {v} : Wr exifIFD 0xa002 (Rec.set_width v)
  | heightE {v} : Wr exifIFD 0xa003 (Rec.set_height v)
  | exposureTime {v b} : Wr exifIFD 0x829a (Rec.set_exposureTime_exposureTimeSet v b)
  | aperture {v c} : Wr exifIFD 0x9202 (Rec.set_fnumber_fnumberKind v c)
  | fnumber {v c} : Wr exifIFD 0x829d (Rec.set_fnumber_fnumberKind v c)
  | exposureProgram {v} : Wr exifIFD 0x8822 (Rec.set_exposureProgram v)
  | exposureBias {v} : Wr exifIFD 0x9204 (Rec.set_exposureBias v)
  | exposureMode {v} : Wr exifIFD 0xa402 (Rec.set_exposureMode v)
  | meteringMode {v} : Wr exifIFD 0x9207 (Rec.set_meteringMode v)
  | isoSpeed {v} : Wr exifIFD 0x8827 (Rec.set_isoSpeed v)
  | flash {v} : Wr exifIFD 0x9209 (Rec.set_flash v)
  | focalLength {v b} : Wr exifIFD 0x920a (Rec.set_focalLength_focalLengthSet v b)
  | focalLength35 {v b} : Wr exifIFD 0xa405 (Rec.set_focalLength35_focalLength35Set v b)
  | lensInfo {v} : Wr exifIFD 0xa432 (Rec.set_lensInfo v)
  | dateTimeOriginal {v} : Wr exifIFD 0x9003 (Rec.set_dateTimeOriginal v)
  | createDate {v} : Wr exifIFD 0x9004 (Rec.set_createDate v)
  | subSec {v} : Wr exifIFD 0x9290 (Rec.set_subSec v)
  | subSecOriginal {v} : Wr exifIFD 0x9291 (Rec.set_subSecOriginal v)
  | subSecDigitized {v} : Wr exifIFD 0x9292 (Rec.set_subSecDigitized v)
  | offsetTime {v} : Wr exifIFD 0x9010 (Rec.set_offsetTime v)
  | offsetTimeOriginal {v} : Wr exifIFD 0x9011 (Rec.set_offsetTimeOriginal v)
  | offsetTimeDigitized {v} : Wr exifIFD 0x9012 (Rec.set_offsetTimeDigitized v)
  | gpsAltRef {v} : Wr gpsIFD 5 (Rec.set_gpsAltRef v)
  | gpsLatRef {v} : Wr gpsIFD 1 (Rec.set_gpsLatRef v)
  | gpsLngRef {v} : Wr gpsIFD 3 (Rec.set_gpsLngRef v)
  | gpsAlt {v} : Wr gpsIFD 6 (Rec.set_gpsAlt v)
  | gpsLat {v} : Wr gpsIFD 2 (Rec.set_gpsLat v)
  | gpsLng {v} : Wr gpsIFD 4 (Rec.set_gpsLng v)
  | gpsTime {v} : Wr gpsIFD 7 (Rec.set_gpsTime v)
  | gpsDate {v} : Wr gpsIFD 0x1d (Rec.set_gpsDate v)
  | nop {d k} : Wr d k fun e => e

def Wrs (d k : Nat) (ex : Rec) (x : Outcome Rec) : Prop := Post x fun ex' => ∃ u, Wr d k u ∧ ex' = u ex

theorem Wrs.ok {d k u ex} (h : Wr d k u) : Wrs d k ex (.ok (u ex)) := Post.ok ⟨u, h, rfl⟩

theorem Wrs.nop {d k ex} : Wrs d k ex (.ok ex) := Wrs.ok (u := fun e => e) .nop

theorem Wrs.bind {β d k ex} {x : Outcome β} {g : β → Outcome Rec} (hg : ∀ v, Wrs d k ex (g v)) : Wrs d k ex (x >>= g) :=
  Post.bind fun v _ => hg v

/- The three dispatchers branch by branch: the branch fixes the tag id; under at most one bind and one `match` the result
is `.ok (u ex)` with `u` a row of the table (found with the setters kept folded, so that the search compares names). -/

theorem parseGpsIfdV_wr (ex : Rec) (t : Tag) (buf : Bytes) (err : Option ErrKind) :
    Wrs gpsIFD t.id ex (parseGpsIfdV ex t buf err) := by
  fun_cases parseGpsIfdV ex t buf err
  all_goals try rw [‹t.id = _›]
  all_goals try refine Wrs.bind fun _ => ?_
  all_goals first | with_reducible exact Wrs.nop | (refine Wrs.ok ?_; with_reducible constructor)

theorem parseIfd0V_wr (tb : Tables) (ex : Rec) (t : Tag) (buf : Bytes) (err : Option ErrKind) :
    Wrs ifd0 t.id ex (parseIfd0V tb ex t buf err) := by
  fun_cases parseIfd0V tb ex t buf err
  all_goals try rw [‹t.id = _›]
  all_goals try refine Wrs.bind fun _ => ?_
  all_goals try dsimp only
  all_goals try split
  all_goals first | with_reducible exact Wrs.nop | (refine Wrs.ok ?_; with_reducible constructor)

theorem parseExifIfdV_wr (ex : Rec) (t : Tag) (buf : Bytes) (err : Option ErrKind) :
    Wrs exifIFD t.id ex (parseExifIfdV ex t buf err) := by
  fun_cases parseExifIfdV ex t buf err
  all_goals try rw [‹t.id = _›]
  all_goals try refine Wrs.bind fun _ => ?_
  all_goals try split
  all_goals try first | with_reducible exact Wrs.nop | (refine Wrs.ok ?_; with_reducible constructor)
  -- left: FocalLength and FocalLengthIn35mmFormat, which share a branch
  rename_i h _ _ _
  split
  · rw [‹t.id = 0x920a›]; exact Wrs.ok .focalLength
  · rw [h.resolve_left ‹_›]; exact Wrs.ok .focalLength35

theorem parseTagV_wr (tb : Tables) (ex : Rec) (t : Tag) (buf : Bytes) (err : Option ErrKind) :
    Wrs t.ifd t.id ex (parseTagV tb ex t buf err) := by
  fun_cases parseTagV tb ex t buf err
  · rw [‹t.ifd = _›]; exact parseIfd0V_wr tb ex t buf err
  · rw [‹t.ifd = _›]; exact parseExifIfdV_wr ex t buf err
  · rw [‹t.ifd = _›]; exact parseGpsIfdV_wr ex t buf err
  · exact Wrs.nop

/-- `f` is written by the tags `k` of directory `d` only, and a successful parse of such a tag leaves in `f` what the
value parser `p` makes of the tag and of the outcome of its one read -/
structure Owns {α} (tb : Tables) (f : Rec → α) (d k : Nat) (p : Tag → Bytes → Option ErrKind → Outcome α) : Prop where
  /-- the default proof inspects the write table row by row: the setter leaves `f` alone, or the row has the key -/
  frame : ∀ {d' k' u}, Wr d' k' u → ¬(d' = d ∧ k' = k) → ∀ ex, f (u ex) = f ex := by
    -- `induction`, not `cases`: the indices are variables, so no equations between them have to be solved (half the cost)
    intro _ _ _ h hk _; induction h <;> first | exact rfl | exact absurd ⟨rfl, rfl⟩ hk
  write : ∀ {ex t buf err}, t.ifd = d → t.id = k → omap f (parseTagV tb ex t buf err) = p t buf err

variable {α : Type} {tb : Tables} {f : Rec → α} {d k : Nat} {p : Tag → Bytes → Option ErrKind → Outcome α} {F : Bytes}

theorem Owns.keeps (o : Owns tb f d k p) : ∀ (ts : List Tag) (ex exF : Rec), (∀ t ∈ ts, ¬(t.ifd = d ∧ t.id = k)) →
    idealRun tb F ex ts = .ok exF → f exF = f ex := by
  intro ts
  induction ts with
  | nil => intro ex exF _ h; cases h; rfl
  | cons t ts ih =>
    intro ex exF hP h
    obtain ⟨e1, h1, h⟩ := Outcome.bind_eq_ok h
    obtain ⟨u, hu, rfl⟩ := parseTagV_wr tb ex t _ _ e1 h1
    rw [ih _ exF (fun x hx => hP x (List.mem_cons_of_mem _ hx)) h]
    exact o.frame hu (hP t List.mem_cons_self) ex

/-- **A single-writer field, end to end.**  If the record so far is what the random-access decoder makes of the parsed
tags (`Exact`) and `a` is the last of them with the writer's key, the field holds what its value parser makes of `a` and
of exactly the bytes `a` points at in F. -/
theorem Owns.exact {ex0 : Rec} {r : R} (o : Owns tb f d k p) (he : Exact tb ex0 F r) {pre post : List Tag} {a : Tag}
    (hsplit : r.parsed = pre ++ a :: post) (h0 : a.ifd = d) (hid : a.id = k) (hpost : ∀ t ∈ post, ¬(t.ifd = d ∧ t.id = k)) :
    p a (slice F a) none = .ok (f r.ex) := by
  have href := he.ref
  rw [hsplit, idealRun_append] at href
  obtain ⟨exPre, _, href⟩ := Outcome.bind_eq_ok href
  obtain ⟨exA, hA, href⟩ := Outcome.bind_eq_ok href
  rw [← o.write (ex := exPre) h0 hid, o.keeps post exA r.ex hpost href]
  exact congrArg (omap f) hA

theorem Owns.exact_eq {ex0 : Rec} {r : R} (o : Owns tb f d k p) (he : Exact tb ex0 F r) {pre post : List Tag} {a : Tag} {v : α}
    (hsplit : r.parsed = pre ++ a :: post) (h0 : a.ifd = d) (hid : a.id = k) (hpost : ∀ t ∈ post, ¬(t.ifd = d ∧ t.id = k))
    (hv : p a (slice F a) none = .ok v) : f r.ex = v :=
  Outcome.ok.inj ((o.exact he hsplit h0 hid hpost).symm.trans hv)

theorem parseBytesV_outOfLine {t : Tag} {strict : Bool} {buf : Bytes} (hemb : t.isEmbedded = false) (hasc : isASCII t = true) :
    parseBytesV t strict buf none = .ok (trimNUL buf) := by
  simp [parseBytesV, hemb, hasc]

theorem parseStringV_outOfLine {t : Tag} {buf : Bytes} (hemb : t.isEmbedded = false) (hasc : isASCII t = true) :
    parseStringV t buf none = .ok (trimNUL buf) := by
  unfold parseStringV; rw [parseBytesV_outOfLine hemb hasc]; rfl

def makeOf (tb : Tables) (s : Bytes) : Bytes × Nat :=
  match tb.makeOfString s with
  | some mk => (tb.makeName mk, mk)
  | none => (s, 0)

attribute [field_eval] parseTagV ifd0 exifIFD gpsIFD omap_bind omap_ok Outcome.bind_pure

theorem owns_software (tb : Tables) : Owns tb (·.software) ifd0 0x0131 parseStringV where
  write h0 hid := by simp only [field_eval, parseIfd0V, h0, hid, Rec.set_software, ↓reduceIte, Nat.reduceEqDiff]

theorem owns_copyright (tb : Tables) : Owns tb (·.copyright) ifd0 0x8298 parseStringV where
  write h0 hid := by simp only [field_eval, parseIfd0V, h0, hid, Rec.set_copyright, ↓reduceIte, Nat.reduceEqDiff]

theorem owns_description (tb : Tables) : Owns tb (·.description) ifd0 0x010e parseStringV where
  write h0 hid := by simp only [field_eval, parseIfd0V, h0, hid, Rec.set_description, ↓reduceIte, Nat.reduceEqDiff]

theorem owns_lensMake (tb : Tables) : Owns tb (·.lensMake) exifIFD 0xa433 parseStringV where
  write h0 hid := by simp only [field_eval, parseExifIfdV, h0, hid, Rec.set_lensMake, ↓reduceIte, Nat.reduceEqDiff]

theorem owns_lensModel (tb : Tables) : Owns tb (·.lensModel) exifIFD 0xa434 parseStringV where
  write h0 hid := by simp only [field_eval, parseExifIfdV, h0, hid, Rec.set_lensModel, ↓reduceIte, Nat.reduceEqDiff]

theorem owns_lensSerial (tb : Tables) : Owns tb (·.lensSerial) exifIFD 0xa435 parseStringV where
  write h0 hid := by simp only [field_eval, parseExifIfdV, h0, hid, Rec.set_lensSerial, ↓reduceIte, Nat.reduceEqDiff]

theorem owns_orientation (tb : Tables) : Owns tb (·.orientation) ifd0 0x0112 (fun t _ _ => parseUint16 t) where
  write h0 hid := by simp only [field_eval, parseIfd0V, h0, hid, Rec.set_orientation, ↓reduceIte, Nat.reduceEqDiff]

theorem owns_stripOffsets (tb : Tables) : Owns tb (·.stripOffsets) ifd0 0x0111 (fun t _ _ => parseUint32 t) where
  write h0 hid := by simp only [field_eval, parseIfd0V, h0, hid, Rec.set_stripOffsets, ↓reduceIte, Nat.reduceEqDiff]

theorem owns_stripByteCounts (tb : Tables) : Owns tb (·.stripByteCounts) ifd0 0x0117 (fun t _ _ => parseUint32 t) where
  write h0 hid := by simp only [field_eval, parseIfd0V, h0, hid, Rec.set_stripByteCounts, ↓reduceIte, Nat.reduceEqDiff]

theorem owns_exposureProgram (tb : Tables) : Owns tb (·.exposureProgram) exifIFD 0x8822 (fun t _ _ => parseUint16 t) where
  write h0 hid := by simp only [field_eval, parseExifIfdV, h0, hid, Rec.set_exposureProgram, ↓reduceIte, Nat.reduceEqDiff]

theorem owns_exposureMode (tb : Tables) : Owns tb (·.exposureMode) exifIFD 0xa402 (fun t _ _ => parseUint16 t) where
  write h0 hid := by simp only [field_eval, parseExifIfdV, h0, hid, Rec.set_exposureMode, ↓reduceIte, Nat.reduceEqDiff]

theorem owns_meteringMode (tb : Tables) : Owns tb (·.meteringMode) exifIFD 0x9207 (fun t _ _ => parseUint16 t) where
  write h0 hid := by simp only [field_eval, parseExifIfdV, h0, hid, Rec.set_meteringMode, ↓reduceIte, Nat.reduceEqDiff]

theorem owns_isoSpeed (tb : Tables) : Owns tb (·.isoSpeed) exifIFD 0x8827 (fun t _ _ => parseUint32 t) where
  write h0 hid := by simp only [field_eval, parseExifIfdV, h0, hid, Rec.set_isoSpeed, ↓reduceIte, Nat.reduceEqDiff]

theorem owns_flash (tb : Tables) : Owns tb (·.flash) exifIFD 0x9209 (fun t _ _ => parseUint16 t) where
  write h0 hid := by simp only [field_eval, parseExifIfdV, h0, hid, Rec.set_flash, ↓reduceIte, Nat.reduceEqDiff]

theorem owns_modifyDate (tb : Tables) : Owns tb (·.modifyDate) ifd0 0x0132 parseDateV where
  write h0 hid := by simp only [field_eval, parseIfd0V, h0, hid, Rec.set_modifyDate, ↓reduceIte, Nat.reduceEqDiff]

theorem owns_lensInfo (tb : Tables) : Owns tb (·.lensInfo) exifIFD 0xa432 parseLensInfoV where
  write h0 hid := by simp only [field_eval, parseExifIfdV, h0, hid, Rec.set_lensInfo, ↓reduceIte, Nat.reduceEqDiff, or_self]

theorem owns_dateTimeOriginal (tb : Tables) : Owns tb (·.dateTimeOriginal) exifIFD 0x9003 parseDateV where
  write h0 hid := by simp only [field_eval, parseExifIfdV, h0, hid, Rec.set_dateTimeOriginal, ↓reduceIte, Nat.reduceEqDiff, or_self]

theorem owns_createDate (tb : Tables) : Owns tb (·.createDate) exifIFD 0x9004 parseDateV where
  write h0 hid := by simp only [field_eval, parseExifIfdV, h0, hid, Rec.set_createDate, ↓reduceIte, Nat.reduceEqDiff, or_self]

theorem owns_subSec (tb : Tables) : Owns tb (·.subSec) exifIFD 0x9290 parseSubSecV where
  write h0 hid := by simp only [field_eval, parseExifIfdV, h0, hid, Rec.set_subSec, ↓reduceIte, Nat.reduceEqDiff, or_self]

theorem owns_subSecOriginal (tb : Tables) : Owns tb (·.subSecOriginal) exifIFD 0x9291 parseSubSecV where
  write h0 hid := by simp only [field_eval, parseExifIfdV, h0, hid, Rec.set_subSecOriginal, ↓reduceIte, Nat.reduceEqDiff, or_self]

theorem owns_subSecDigitized (tb : Tables) : Owns tb (·.subSecDigitized) exifIFD 0x9292 parseSubSecV where
  write h0 hid := by simp only [field_eval, parseExifIfdV, h0, hid, Rec.set_subSecDigitized, ↓reduceIte, Nat.reduceEqDiff, or_self]

theorem owns_offsetTime (tb : Tables) : Owns tb (·.offsetTime) exifIFD 0x9010 parseOffsetTimeV where
  write h0 hid := by simp only [field_eval, parseExifIfdV, h0, hid, Rec.set_offsetTime, ↓reduceIte, Nat.reduceEqDiff, or_self]

theorem owns_offsetTimeOriginal (tb : Tables) : Owns tb (·.offsetTimeOriginal) exifIFD 0x9011 parseOffsetTimeV where
  write h0 hid := by simp only [field_eval, parseExifIfdV, h0, hid, Rec.set_offsetTimeOriginal, ↓reduceIte, Nat.reduceEqDiff, or_self]

theorem owns_offsetTimeDigitized (tb : Tables) : Owns tb (·.offsetTimeDigitized) exifIFD 0x9012 parseOffsetTimeV where
  write h0 hid := by simp only [field_eval, parseExifIfdV, h0, hid, Rec.set_offsetTimeDigitized, ↓reduceIte, Nat.reduceEqDiff, or_self]

theorem owns_gpsAlt (tb : Tables) : Owns tb (·.gpsAlt) gpsIFD 0x0006 parseGPSAltV where
  write h0 hid := by simp only [field_eval, parseGpsIfdV, h0, hid, Rec.set_gpsAlt, ↓reduceIte, Nat.reduceEqDiff]

theorem owns_gpsLat (tb : Tables) : Owns tb (·.gpsLat) gpsIFD 0x0002 parseGPSCoordV where
  write h0 hid := by simp only [field_eval, parseGpsIfdV, h0, hid, Rec.set_gpsLat, ↓reduceIte, Nat.reduceEqDiff]

theorem owns_gpsLng (tb : Tables) : Owns tb (·.gpsLng) gpsIFD 0x0004 parseGPSCoordV where
  write h0 hid := by simp only [field_eval, parseGpsIfdV, h0, hid, Rec.set_gpsLng, ↓reduceIte, Nat.reduceEqDiff]

theorem owns_gpsTime (tb : Tables) : Owns tb (·.gpsTime) gpsIFD 0x0007 parseGPSTimeV where
  write h0 hid := by simp only [field_eval, parseGpsIfdV, h0, hid, Rec.set_gpsTime, ↓reduceIte, Nat.reduceEqDiff]

theorem owns_gpsDate (tb : Tables) : Owns tb (·.gpsDate) gpsIFD 0x001d parseGPSDateV where
  write h0 hid := by simp only [field_eval, parseGpsIfdV, h0, hid, Rec.set_gpsDate, ↓reduceIte, Nat.reduceEqDiff]

theorem owns_gpsAltRef (tb : Tables) : Owns tb (·.gpsAltRef) gpsIFD 0x0005 (fun t _ _ => .ok (parseGPSRef t)) where
  write h0 hid := by simp only [field_eval, parseGpsIfdV, h0, hid, Rec.set_gpsAltRef, ↓reduceIte, Nat.reduceEqDiff]

theorem owns_gpsLatRef (tb : Tables) : Owns tb (·.gpsLatRef) gpsIFD 0x0001 (fun t _ _ => .ok (parseGPSRef t)) where
  write h0 hid := by simp only [field_eval, parseGpsIfdV, h0, hid, Rec.set_gpsLatRef, ↓reduceIte, Nat.reduceEqDiff]

theorem owns_gpsLngRef (tb : Tables) : Owns tb (·.gpsLngRef) gpsIFD 0x0003 (fun t _ _ => .ok (parseGPSRef t)) where
  write h0 hid := by simp only [field_eval, parseGpsIfdV, h0, hid, Rec.set_gpsLngRef, ↓reduceIte, Nat.reduceEqDiff]

theorem owns_make (tb : Tables) : Owns tb (fun e => (e.make, e.cameraMake)) ifd0 0x010f
    (fun t buf err => omap (makeOf tb) (parseBytesV t true buf err)) where
  write {ex t buf err} h0 hid := by
    simp only [field_eval, parseIfd0V, h0, hid, ↓reduceIte]
    cases parseBytesV t true buf err with
    | ok s => show omap _ _ = Outcome.ok (makeOf tb s); unfold makeOf; cases tb.makeOfString s <;> rfl
    | _ => rfl

end Imeta.Exif
