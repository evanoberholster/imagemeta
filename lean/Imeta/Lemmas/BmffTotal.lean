/-
  The ISOBMFF reader model never reaches a `panic` outcome: `head` is only used inside a box, and the fuel given to the
  inner-box loops (unread bytes / 8 + 2) always suffices, because every round that goes on has consumed a box header.
  Every handler is shown `Safe` (contained and free of panics, together); `Pres.*` and `NP.*` of a handler are the two halves.
-/
import Imeta.Lemmas.Bmff
namespace Imeta.Bmff

def isPanic {α} : Res α → Prop
  | .panic _ => True
  | _ => False

def NP {α} (m : M α) : Prop := ∀ s, s.chain ≠ [] → ¬ isPanic (m s).1 ∧ (m s).2.chain.length = s.chain.length

theorem ne_of_len {s s' : St} (h : s'.chain.length = s.chain.length) (hn : s.chain ≠ []) : s'.chain ≠ [] :=
  fun h0 => hn (List.eq_nil_of_length_eq_zero (by rw [← h, h0]; rfl))

/-- `NP` at the one state `s`: a fuelled loop is safe only from states whose unread bytes its fuel covers
(`innerLoop_total`, `C02_isobmff_loops_bounded`) -/
def NPat {α} (m : M α) (s : St) : Prop := ¬ isPanic (m s).1 ∧ (m s).2.chain.length = s.chain.length

theorem NP.at {α} {m : M α} (h : NP m) {s : St} (hn : s.chain ≠ []) : NPat m s := h s hn

theorem NPat.chain_ne {α} {m : M α} {s s1 : St} {r : Res α} (h : NPat m s) (hn : s.chain ≠ []) (hms : m s = (r, s1)) : s1.chain ≠ [] :=
  ne_of_len (by have := h.2; rwa [hms] at this) hn

/-- the continuation need only be safe on the result and the state the first part really produced (what the fuelled loop
needs: its next round is safe because this round consumed) -/
theorem NPat.bind {α β} {m : M α} {f : α → M β} {s : St} (hm : NPat m s)
    (hf : ∀ a s1, m s = (.ok a, s1) → NPat (f a) s1) : NPat (m >>= f) s := by
  unfold NPat at *
  cases hms : m s with
  | mk r s1 =>
    rw [hms] at hm
    cases r with
    | ok a => rw [bind_ok hms]; exact ⟨(hf a s1 hms).1, (hf a s1 hms).2.trans hm.2⟩
    | err k => rw [bind_err hms]; exact ⟨by simp [isPanic], hm.2⟩
    | panic p => exact absurd trivial hm.1

theorem NP.pure {α} (a : α) : NP (pure a : M α) := fun _ _ => ⟨by simp [isPanic, pure_run], rfl⟩
theorem NP.fail {α} (k : ErrKind) : NP (fail k : M α) := fun _ _ => ⟨by simp [isPanic, fail_run], rfl⟩
theorem NP.get : NP get := fun _ _ => ⟨by simp [isPanic, Bmff.get], rfl⟩
theorem NP.loopFuel : NP loopFuel := fun _ _ => ⟨by simp [isPanic, Bmff.loopFuel], rfl⟩

theorem NP.head : NP head := by
  intro s hn
  obtain ⟨b, hb⟩ := head_run s hn
  rw [hb]
  exact ⟨id, rfl⟩

theorem NP.bind {α β} {m : M α} {f : α → M β} (hm : NP m) (hf : ∀ a, NP (f a)) : NP (m >>= f) :=
  fun _ hn => (hm.at hn).bind fun a _ h => (hf a).at ((hm.at hn).chain_ne hn h)

theorem attempt_isPanic {α} (m : M α) (s : St) : isPanic (attempt m s).1 ↔ isPanic (m s).1 := by
  unfold attempt; split <;> rename_i h <;> rw [h] <;> exact Iff.rfl

theorem NP.attempt {α} {m : M α} (hm : NP m) : NP (attempt m) := by
  intro s hn; rw [attempt_isPanic, attempt_snd]; exact hm s hn

theorem NP.peek (n : Int) : NP (peek n) := by
  intro s _
  refine ⟨?_, by rw [peek_snd]⟩
  unfold Bmff.peek
  simp only [apply_ite Prod.fst, apply_ite isPanic]
  simp only [isPanic, ite_self, not_false_eq_true]

theorem decChain_length (c : List Box) (n : Int) : (decChain c n).1.length = c.length := by
  have := congrArg List.length (decChain_lims c n)
  simpa using this

theorem NP.discard (n : Int) : NP (discard n) := by
  intro s _
  unfold Bmff.discard
  by_cases hneg : n < 0
  · rw [if_pos hneg]; split <;> exact ⟨by simp [isPanic], rfl⟩
  rw [if_neg hneg]
  simp only []
  split
  · exact ⟨by simp [isPanic], decChain_length _ _⟩
  · split <;> exact ⟨by simp [isPanic], decChain_length _ _⟩

theorem NP.readUpTo (k : Nat) : NP (readUpTo k) := by
  intro s _; unfold Bmff.readUpTo
  exact ⟨by simp [isPanic], by simp [subAll]⟩

theorem NP.modify (f : St → St) (hc : ∀ s, (f s).chain.length = s.chain.length) : NP (modify f) :=
  fun s _ => ⟨by simp [isPanic, Bmff.modify], hc s⟩

theorem NP.emit (e : Ev) : NP (emit e) := NP.modify _ (fun _ => rfl)

theorem NP.setHead (f : Box → Box) : NP (setHead f) := by
  apply NP.modify
  intro s
  cases hc : s.chain <;> simp [hc]

theorem NP.openBox {α} (size remain offset : Int) (typ : Bytes) {body : M α} (hb : NP body) :
    NP (openBox size remain offset typ body) := by
  intro s _
  unfold Bmff.openBox
  have h := hb { s with chain := { size := size, remain := remain, offset := offset, flags := 0, typ := typ, lim := (s.pos : Int) + max remain 0 } :: s.chain } (by simp)
  refine ⟨h.1, ?_⟩
  have := h.2
  simp only [List.length_cons] at this
  simp only [List.length_tail]
  omega

theorem NP.close : NP close := by
  unfold Bmff.close
  apply NP.bind NP.head
  intro b
  split
  · exact NP.pure ()
  · exact NP.discard _

/-- a round of the inner-box loop that asks for another round has consumed the header of a box: at least 8 bytes -/
theorem innerStep_again {h : Bytes → M Unit} (hp : ∀ t, Pres (h t)) (oe : OnErr) (s s' : St) (hn : s.chain ≠ [])
    (hr : innerStep h oe s = (.ok .again, s')) : s'.rest.length + 8 ≤ s.rest.length := by
  unfold innerStep at hr
  -- a box with fewer than 8 bytes left stops the loop
  obtain ⟨b, s0, h0, hr⟩ := bind_ok_inv hr
  obtain ⟨n0, l0⟩ := Pres.head.run hn h0
  by_cases hlt : b.remain < 8
  · rw [if_pos hlt] at hr; cases hr
  rw [if_neg hlt] at hr
  -- the header is peeked, nothing consumed; a failed peek or a negative 64-bit size stops the loop
  obtain ⟨r, sp, hpk, hr⟩ := bind_ok_inv hr
  obtain ⟨np, lp⟩ := (Pres.attempt (Pres.peek 16)).run n0 hpk
  cases r with
  | error k => cases hr
  | ok buf =>
    simp only [] at hr
    by_cases hbig : (((be32 buf : Nat) : Int) == 1 && decide (toI64 (beNat ((buf.drop 8).take 8)) < 0)) = true
    · rw [if_pos hbig] at hr; cases hr
    rw [if_neg hbig] at hr
    -- the inner box is opened; its body runs from `sp` to `s4`
    obtain ⟨bx, s4, hb, rfl⟩ := openBox_ok_inv hr
    obtain ⟨rd, s2, hd, hb⟩ := bind_ok_inv hb
    cases rd with
    | error k => cases hb
    | ok u =>
      -- the header is discarded; the handler and `close` after it only consume
      obtain ⟨k, hk, hroom, rfl⟩ := discard_ok (attempt_ok_inv hd)
      have h4 : s4.rest.length ≤ (sp.rest.drop k).length :=
        (((Pres.attempt (hp _)).bind fun _ => (Pres.attempt Pres.close).bind fun r => by
          cases r <;> exact Pres.pure _).run (by simp [St.adv, subAll]) hb).2
      have hlen : k ≤ sp.rest.length := hroom.len
      -- `k` is the header length, 8 or 16
      have : (8 : Int) ≤ k := by rw [← hk]; split <;> omega
      rw [List.length_drop] at h4
      show s4.rest.length + 8 ≤ _
      omega

/-- inside a box, `m` stays within every open box (`Pres`) and neither panics nor runs a loop dry (`NP`).  Unlike `NP`
alone, this is closed under everything the handlers are built from, the inner-box loop included: that the fuel suffices
(`NP`) needs that every round consumes (`Pres`). -/
structure Safe {α} (m : M α) : Prop where
  pres : Pres m
  np : NP m

namespace Safe

theorem pure {α} {a : α} : Safe (Pure.pure a : M α) := ⟨.pure a, .pure a⟩
theorem fail {α} {k : ErrKind} : Safe (Bmff.fail k : M α) := ⟨.fail k, .fail k⟩
theorem get : Safe Bmff.get := ⟨.get, .get⟩
theorem head : Safe Bmff.head := ⟨.head, .head⟩
theorem peek {n : Int} : Safe (Bmff.peek n) := ⟨.peek n, .peek n⟩
theorem discard {n : Int} : Safe (Bmff.discard n) := ⟨.discard n, .discard n⟩
theorem readUpTo {k : Nat} : Safe (Bmff.readUpTo k) := ⟨.readUpTo k, .readUpTo k⟩
theorem close : Safe Bmff.close := ⟨.close, .close⟩
theorem emit {e : Ev} : Safe (Bmff.emit e) := ⟨.emit e, .emit e⟩
theorem setFlags {v : Nat} : Safe (Bmff.setHead fun b => { b with flags := v }) := ⟨.setFlags v, .setHead _⟩
theorem modify (f : St → St) (hc : ∀ s, (f s).chain = s.chain := by intro _; rfl) (hp : ∀ s, (f s).pos = s.pos := by intro _; rfl)
    (hr : ∀ s, (f s).rest = s.rest := by intro _; rfl) (hcfg : ∀ s, (f s).cfg = s.cfg := by intro _; rfl) : Safe (Bmff.modify f) :=
  ⟨.modify f hc hp hr hcfg, .modify f fun s => congrArg List.length (hc s)⟩
theorem bind {α β} {m : M α} {f : α → M β} (hm : Safe m) (hf : ∀ a, Safe (f a)) : Safe (m >>= f) :=
  ⟨.bind hm.pres fun a => (hf a).pres, .bind hm.np fun a => (hf a).np⟩
theorem attempt {α} {m : M α} (hm : Safe m) : Safe (Bmff.attempt m) := ⟨.attempt hm.pres, .attempt hm.np⟩
/-- `x, err := m(); if err != nil { … }` -/
theorem try_ {α β} {m : M α} {f : Except ErrKind α → M β} (hm : Safe m) (he : ∀ e, Safe (f (.error e))) (hk : ∀ a, Safe (f (.ok a))) :
    Safe (Bmff.attempt m >>= f) :=
  bind (attempt hm) fun r => by cases r; exact he _; exact hk _
theorem openBox {α} (size remain offset : Int) (typ : Bytes) {body : M α} (hb : Safe body) :
    Safe (Bmff.openBox size remain offset typ body) := ⟨.openBox _ _ _ _ hb.pres, .openBox _ _ _ _ hb.np⟩
theorem ite {α} {c : Prop} [Decidable c] {a b : M α} (ha : Safe a) (hb : Safe b) : Safe (if c then a else b) := by
  split <;> assumption

theorem innerStep {h : Bytes → M Unit} (hh : ∀ t, Safe (h t)) (oe : OnErr) : Safe (innerStep h oe) :=
  bind head fun _ => ite pure <| try_ peek (fun _ => pure) fun _ => ite pure <| openBox _ _ _ _ <|
    try_ discard (fun _ => pure) fun _ => bind (attempt (hh _)) fun _ => try_ close (fun _ => pure) fun _ => pure

theorem innerLoop_pres {h : Bytes → M Unit} (hh : ∀ t, Safe (h t)) (oe : OnErr) (f : Nat) : Pres (innerLoop h oe f) := by
  induction f with
  | zero => unfold Pres; exact fun s _ => Rel.refl s
  | succ f ih => exact .bind (innerStep hh oe).pres fun r => by cases r; exact .pure _; exact ih; exact .fail _

end Safe

theorem innerLoop_total {h : Bytes → M Unit} (hh : ∀ t, Safe (h t)) (oe : OnErr) :
    ∀ (f : Nat) (s : St), s.chain ≠ [] → s.rest.length / 8 < f → NPat (innerLoop h oe f) s := by
  intro f
  induction f with
  | zero => intro s _ hlt; omega
  | succ f ih =>
    intro s hn hlt
    have h1 := (Safe.innerStep hh oe).np.at hn
    unfold Bmff.innerLoop
    refine h1.bind fun nx s1 hms => ?_
    cases nx with
    | stop => exact (NP.pure ()).at (h1.chain_ne hn hms)
    | failWith e => exact (NP.fail e).at (h1.chain_ne hn hms)
    | again =>
      have hdec := innerStep_again (fun t => (hh t).pres) oe s s1 hn hms
      exact ih s1 (h1.chain_ne hn hms) (by omega)

namespace Safe

theorem loop {h : Bytes → M Unit} (hh : ∀ t, Safe (h t)) (oe : OnErr) {g : M Unit} (hg : Safe g) :
    Safe (do Bmff.innerLoop h oe (← Bmff.loopFuel); g) :=
  ⟨.bind .loopFuel fun f => .bind (innerLoop_pres hh oe f) fun _ => hg.pres, by
    unfold NP
    intro s hn
    rw [bind_ok (show Bmff.loopFuel s = (.ok (s.rest.length / 8 + 2), s) from rfl)]
    have ht := innerLoop_total hh oe (s.rest.length / 8 + 2) s hn (by omega)
    exact ht.bind fun _ _ h => hg.np.at (ht.chain_ne hn h)⟩

/-- `err = handler(&b); b.close(); return err` -/
theorem guarded {m : M Unit} (hm : Safe m) :
    Safe (do
      let r ← Bmff.attempt m
      let _ ← Bmff.attempt Bmff.close
      match r with
      | .ok _ => Pure.pure ()
      | .error e => Bmff.fail e) :=
  try_ hm (fun _ => bind (attempt close) fun _ => fail) (fun _ => bind (attempt close) fun _ => pure)

/-! every handler, by a term that follows the handler statement by statement -/

theorem readFlags : Safe readFlags := try_ peek (fun _ => fail) fun _ => bind setFlags fun _ => discard
theorem readUint16 : Safe readUint16 := try_ peek (fun _ => fail) fun _ => bind discard fun _ => pure
theorem callback {k : String} {n : List Nat} : Safe (callback k n) :=
  bind get fun s => by
    cases s.cfg.cb
    · exact bind readUpTo fun _ => emit
    · exact emit
    · exact bind readUpTo fun _ => bind emit fun _ => fail
    · exact bind readUpTo fun _ => emit
theorem readExifHeader {f : Nat} : Safe (readExifHeader f) :=
  bind peek fun _ => bind head fun _ => bind discard fun _ => pure
theorem readCMT {f : Nat} : Safe (readCMT f) :=
  bind readExifHeader fun _ => bind get fun _ => ite (bind (attempt callback) fun _ => close) close
theorem readCNCV : Safe readCNCV := bind peek fun _ => close
theorem readCTBO : Safe readCTBO := bind head fun _ => bind peek fun _ => close
theorem crxHandler (t : Bytes) : Safe (crxHandler t) :=
  ite readCNCV <| ite readCTBO <| ite readCMT <| ite readCMT <| ite readCMT <| ite readCMT pure
theorem readCrxMoov : Safe readCrxMoov := loop crxHandler .ret close
theorem prvwBody {t : Bytes} : Safe (prvwBody t) :=
  ite pure <| try_ peek (fun _ => pure) fun _ => try_ discard (fun _ => pure) fun _ =>
    bind get fun _ => ite (bind (attempt callback) fun _ => attempt close) (attempt close)
theorem readPreview : Safe readPreview :=
  try_ discard (fun _ => fail) fun _ => try_ peek (fun _ => fail) fun _ => bind head fun _ =>
    bind (openBox _ _ _ _ prvwBody) fun r => by cases r; exact fail; exact pure
theorem readUUIDBox : Safe readUUIDBox :=
  try_ peek (fun _ => fail) fun _ => bind discard fun _ => bind get fun _ =>
    ite (ite (try_ callback (fun _ => bind (attempt close) fun _ => fail) fun _ => close) close) <|
    ite (bind readCrxMoov fun _ => close) <| ite (bind readPreview fun _ => close) close
theorem readHdlr : Safe readHdlr := bind readFlags fun _ => bind head fun _ => bind peek fun _ => ite fail close
theorem readPitm : Safe readPitm := bind head fun _ => bind peek fun _ => ite fail close
theorem readIdat : Safe readIdat := bind peek fun _ => close
theorem readIpma : Safe readIpma := bind peek fun _ => close
theorem iprpHandler (t : Bytes) : Safe (iprpHandler t) := ite readIpma <| ite close pure
theorem readIprp : Safe readIprp := loop iprpHandler .cont close
theorem readIref : Safe readIref := bind readFlags fun _ => loop (fun _ => pure) .brk close
theorem readInfe : Safe readInfe := bind head fun _ => bind peek fun _ => bind get fun _ => bind (modify _) fun _ => close
theorem readIinf : Safe readIinf := bind readFlags fun _ => bind readUint16 fun _ => bind (attempt readInfe) fun _ => close
theorem readIloc : Safe readIloc :=
  bind peek fun _ => bind setFlags fun _ => bind discard fun _ => bind head fun _ => bind peek fun _ =>
    ite fail <| bind get fun _ => bind (modify _) fun _ => close
theorem metaHandler (t : Bytes) : Safe (metaHandler t) :=
  ite readUUIDBox <| ite readHdlr <| ite readPitm <| ite readIinf <| ite readIref <| ite readIprp <| ite readIdat <|
    ite readIloc pure
theorem readMeta : Safe readMeta := bind readFlags fun _ => loop metaHandler .brk close
theorem moovHandler (t : Bytes) : Safe (moovHandler t) := ite readUUIDBox <| ite close pure
theorem readMoov : Safe readMoov := loop moovHandler .brk close
theorem mdatExifBody {n : Nat} : Safe (mdatExifBody n) :=
  try_ discard (fun _ => pure) fun _ => try_ readExifHeader (fun _ => pure) fun _ => bind get fun _ =>
    ite (bind (attempt callback) fun _ => pure) pure
theorem readMdat : Safe readMdat :=
  bind get fun _ => ite close <| bind head fun _ => bind discard fun _ => bind peek fun _ => bind head fun _ =>
    bind (openBox _ _ _ _ mdatExifBody) fun r => by cases r; exact fail; exact close
theorem dispatch (t : Bytes) : Safe (dispatch t) :=
  ite readMdat <| ite (guarded readMeta) <| ite (guarded readMoov) <| ite readUUIDBox close

end Safe

theorem Pres.readUint16 : Pres readUint16 := Safe.readUint16.pres
theorem Pres.callback (k : String) (n : List Nat) : Pres (callback k n) := Safe.callback.pres
theorem Pres.readExifHeader (f : Nat) : Pres (readExifHeader f) := Safe.readExifHeader.pres
theorem Pres.readPreview : Pres readPreview := Safe.readPreview.pres
theorem Pres.readUUIDBox : Pres readUUIDBox := Safe.readUUIDBox.pres
theorem Pres.readHdlr : Pres readHdlr := Safe.readHdlr.pres
theorem Pres.readPitm : Pres readPitm := Safe.readPitm.pres
theorem Pres.readIref : Pres readIref := Safe.readIref.pres
theorem Pres.readInfe : Pres readInfe := Safe.readInfe.pres
theorem Pres.readIloc : Pres readIloc := Safe.readIloc.pres
theorem Pres.readMeta : Pres readMeta := Safe.readMeta.pres
theorem Pres.readMdat : Pres readMdat := Safe.readMdat.pres
theorem Pres.dispatch (t : Bytes) : Pres (dispatch t) := (Safe.dispatch t).pres

theorem NP.readUint16 : NP readUint16 := Safe.readUint16.np
theorem NP.callback (k : String) (n : List Nat) : NP (callback k n) := Safe.callback.np
theorem NP.readExifHeader (f : Nat) : NP (readExifHeader f) := Safe.readExifHeader.np
theorem NP.readPreview : NP readPreview := Safe.readPreview.np
theorem NP.readUUIDBox : NP readUUIDBox := Safe.readUUIDBox.np
theorem NP.readHdlr : NP readHdlr := Safe.readHdlr.np
theorem NP.readPitm : NP readPitm := Safe.readPitm.np
theorem NP.readIref : NP readIref := Safe.readIref.np
theorem NP.readInfe : NP readInfe := Safe.readInfe.np
theorem NP.readIloc : NP readIloc := Safe.readIloc.np
theorem NP.readMeta : NP readMeta := Safe.readMeta.np
theorem NP.readMdat : NP readMdat := Safe.readMdat.np
theorem NP.dispatch (t : Bytes) : NP (dispatch t) := (Safe.dispatch t).np

theorem topBox_total (body : Bytes → M Unit) (hb : ∀ t, NP (body t)) (s : St) (hs : s.chain = []) :
    ¬ isPanic (topBox body s).1 := by
  rcases topBox_run body s hs with ⟨k, h⟩ | ⟨sz, hdr, _, _, _, h⟩ <;> rw [h]
  · simp [isPanic]
  · have hnp := NP.bind (NP.discard hdr) fun _ => hb (((s.rest.take 16).drop 4).take 4)
    unfold openBox
    exact (hnp.at (List.cons_ne_nil _ _)).1

end Imeta.Bmff
