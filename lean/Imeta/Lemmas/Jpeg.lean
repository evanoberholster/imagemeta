/-
  JPEG scanner, for C02 and C10: `discard` on a stream that holds the bytes, and progress — every pass through the marker
  loop ends the scan or shortens the unread stream (`Step.Shorter`), so the scan terminates.
-/
import Imeta.Model.Jpeg
namespace Imeta.Jpeg
open Imeta

theorem discard_le (s : St) (i : Int) : (discard s i).1.rest.length ≤ s.rest.length := by
  unfold discard
  split
  · exact Nat.le_refl _
  · split
    · exact Nat.le_refl _
    · split
      · simp
      · simp

theorem discard_lt (s : St) (i : Int) (hi : 0 < i) (h : (discard s i).2 = none) :
    (discard s i).1.rest.length < s.rest.length := by
  unfold discard at *
  rw [if_neg (by omega)] at *
  rw [if_neg (by omega)] at *
  split at h
  · rename_i hle
    rw [if_pos hle]
    simp only [List.length_drop]
    omega
  · simp at h

theorem discard_ok (s : St) (n : Nat) (hn : 0 < n) (hle : n ≤ s.rest.length) :
    discard s (n : Int) = ({ s with rest := s.rest.drop n, discarded := (s.discarded + n) % 2 ^ 32 }, none) := by
  unfold discard
  rw [if_neg (by omega), if_neg (by omega)]
  simp [hle]

theorem firstFF_pos (n : Nat) (b : UInt8) (t : Bytes) (h : (b != 0xFF) = true) : 0 < firstFF (n + 1) (b :: t) := by
  have : (b == 0xFF) = false := by simpa using h
  simp only [firstFF, this, Bool.false_eq_true, if_false]
  omega

theorem discard_le_of {s s' : St} {i : Int} {r : Option Res} (h : discard s i = (s', r)) : s'.rest.length ≤ s.rest.length := by
  have := discard_le s i
  rwa [h] at this

def Step.Shorter (n : Nat) : Step → Prop
  | .done _ _ => True
  | .next s' _ => s'.rest.length < n

namespace Step.Shorter

/-- The walk over `step` applies this rule level by level. `split` on the unfolded body would re-simplify its whole
`have` telescope once per enclosing `if`, at every level. -/
theorem ite {n : Nat} {c : Prop} [Decidable c] {a b : Step} (ha : c → a.Shorter n) (hb : ¬c → b.Shorter n) :
    (if c then a else b).Shorter n := by
  split
  · exact ha ‹_›
  · exact hb ‹_›

theorem finish {n : Nat} (s : St) (i : Int) (evs : List Ev) (hi : 0 < i) (hn : s.rest.length ≤ n) :
    (finish (discard s i) evs).Shorter n := by
  unfold Jpeg.finish
  split
  · rename_i h; exact Nat.lt_of_lt_of_le (discard_lt s i hi h) hn
  · trivial

theorem finish_le {n : Nat} (s : St) (i : Int) (evs : List Ev) (hn : s.rest.length < n) :
    (Jpeg.finish (discard s i) evs).Shorter n := by
  unfold Jpeg.finish
  split
  · exact Nat.lt_of_le_of_lt (discard_le s i) hn
  · trivial

theorem readExif (cb : Cbs) (s : St) (size : Nat) : (readExif cb s size).Shorter s.rest.length := by
  unfold Jpeg.readExif
  have h10 := discard_lt s 10 (by decide)
  split
  · trivial
  · rename_i s1 heq
    have hs1 : s1.rest.length < s.rest.length := by simpa [heq] using h10
    refine ite (fun _ => trivial) fun _ => ite (fun _ => ?_) fun _ => finish_le s1 _ _ hs1
    simp only
    split
    · trivial
    · show (List.drop _ _).length < _
      simp only [List.length_drop]; omega

theorem readXMP (cb : Cbs) (s : St) (size : Nat) : (readXMP cb s size).Shorter s.rest.length := by
  unfold Jpeg.readXMP
  have h33 := discard_lt s 33 (by decide)
  split
  · trivial
  · rename_i s1 heq
    have hs1 : s1.rest.length < s.rest.length := by simpa [heq] using h33
    refine ite (fun _ => ?_) fun _ => finish_le s1 _ _ hs1
    simp only
    split
    · trivial
    · split
      · rename_i s3 heq3
        have := discard_le_of heq3
        simp only [List.length_drop] at this
        show s3.rest.length < _
        omega
      · trivial

end Step.Shorter

theorem step_shorter (cb : Cbs) (s : St) : (step cb s).Shorter s.rest.length := by
  have skip : ∀ (s0 : St) (i : Int), s0.rest = s.rest → 0 < i → (finish (discard s0 i) []).Shorter s.rest.length :=
    fun s0 i h0 hi => .finish s0 i [] hi (by rw [h0]; exact Nat.le_refl _)
  have sz : ∀ n : Nat, (0 : Int) < (n : Int) + 2 := fun n => by omega
  have ex := Step.Shorter.readExif cb s
  have xm := Step.Shorter.readXMP cb s
  unfold step
  refine .ite (fun _ => trivial) fun _ => ?_
  generalize hr : s.rest = l at skip ex xm ⊢
  rcases l with _ | ⟨b0, _ | ⟨mk, _ | ⟨hi, _ | ⟨lo, tl⟩⟩⟩⟩ <;> try trivial
  refine .ite (fun hb => skip s _ hr (Int.natCast_pos.mpr (firstFF_pos 63 b0 _ hb))) fun _ => ?_   -- not at a marker
  refine .ite (fun _ => skip s 1 hr (by decide)) fun _ => ?_                                        -- fill byte
  refine .ite (fun _ => skip _ 2 rfl (by decide)) fun _ => ?_                                       -- SOI
  refine .ite (fun _ => skip s 1 hr (by decide)) fun _ => ?_                                        -- outside any image
  refine .ite (fun _ => skip s _ hr (sz _)) fun _ => ?_                                             -- SOFn, DHT
  refine .ite (fun _ => .ite (fun _ => ?_) fun _ => skip s _ hr (sz _)) fun _ => ?_                  -- APPn
  · exact .ite (fun _ => ex _) fun _ => .ite (fun _ => xm _) fun _ => skip s _ hr (sz _)
  · refine .ite (fun _ => ?_) fun _ => ?_                                                           -- EOI
    · -- elaborating against `Shorter` of a test on `(s.pos + 255) % 256` would evaluate the test as far as it goes
      generalize (s.pos + 255) % 256 = p
      exact .ite (fun _ => trivial) fun _ => skip _ 2 rfl (by decide)
    · exact .ite (fun _ => trivial) fun _ => .ite (fun _ => skip s 6 hr (by decide)) fun _ => skip s _ hr (sz _)

theorem step_progress (cb : Cbs) (s s' : St) (evs : List Ev) (h : step cb s = .next s' evs) :
    s'.rest.length < s.rest.length := by
  have := step_shorter cb s
  rwa [h] at this

theorem run_terminates (cb : Cbs) (fuel : Nat) (s : St) (acc : List Ev) (h : s.rest.length < fuel) :
    (run cb fuel s acc).isSome = true := by
  induction fuel generalizing s acc with
  | zero => omega
  | succ f ih =>
    unfold run
    cases hs : step cb s with
    | done r evs => rfl
    | next s' evs =>
      apply ih
      have := step_progress cb s s' evs hs
      omega

end Imeta.Jpeg
