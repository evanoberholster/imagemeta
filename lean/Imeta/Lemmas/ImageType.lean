/-
  Lemmas tying the GENERATED predicates (Imeta.Gen.ImageType) to the hand-written
  signature table (Imeta.ImageTypeSpec).  If a predicate in imagetype/*.go is changed,
  the regenerated definition no longer satisfies its lemma here and the build fails.
-/
import Imeta.Model.ImageType
import Imeta.Spec.ImageType
namespace Imeta.ImageType
open Imeta Imeta.Gen.ImageType Imeta.ImageTypeSpec

theorem hasAt_succ (a : UInt8) (h p : Bytes) (k : Nat) : hasAt (a :: h) (k + 1) p = hasAt h k p := rfl

theorem hasAt_cons (a c : UInt8) (h p : Bytes) : hasAt (a :: h) 0 (c :: p) = (a == c && hasAt h 0 p) := by
  simp only [hasAt, List.drop_zero, List.length_cons, List.take_succ_cons, List.cons_beq_cons]

theorem hasAt_nil (h : Bytes) (k : Nat) : hasAt h k [] = true := by
  simp only [hasAt, List.length_nil, List.take_zero, List.beq_nil_eq, List.isEmpty_nil]

theorem destruct24 (b : Bytes) (h : 24 ≤ b.length) :
    ∃ b0 b1 b2 b3 b4 b5 b6 b7 b8 b9 b10 b11 b12 b13 b14 b15 b16 b17 b18 b19 b20 b21 b22 b23 rest, b = b0::b1::b2::b3::b4::b5::b6::b7::b8::b9::b10::b11::b12::b13::b14::b15::b16::b17::b18::b19::b20::b21::b22::b23::rest := by
  rcases b with _|⟨b0,_|⟨b1,_|⟨b2,_|⟨b3,_|⟨b4,_|⟨b5,_|⟨b6,_|⟨b7,_|⟨b8,_|⟨b9,_|⟨b10,_|⟨b11,_|⟨b12,_|⟨b13,_|⟨b14,_|⟨b15,_|⟨b16,_|⟨b17,_|⟨b18,_|⟨b19,_|⟨b20,_|⟨b21,_|⟨b22,_|⟨b23,rest⟩⟩⟩⟩⟩⟩⟩⟩⟩⟩⟩⟩⟩⟩⟩⟩⟩⟩⟩⟩⟩⟩⟩⟩
  rotate_right
  · exact ⟨_,_,_,_,_,_,_,_,_,_,_,_,_,_,_,_,_,_,_,_,_,_,_,_,_, rfl⟩
  all_goals simp at h

section
variable (b0 b1 b2 b3 b4 b5 b6 b7 b8 b9 b10 b11 b12 b13 b14 b15 b16 b17 b18 b19 b20 b21 b22 b23 : UInt8) (rest : Bytes)
/- `HB`: a buffer whose first 24 bytes are named; `H`: those 24 bytes. The generated predicates read fixed positions below
24, so on `HB` both sides rewrite to a Boolean combination of tests `bk == c` (the generated code tests byte by byte, the
table pattern by pattern), and the two combinations agree up to the Boolean laws. -/
local notation "HB" => (b0::b1::b2::b3::b4::b5::b6::b7::b8::b9::b10::b11::b12::b13::b14::b15::b16::b17::b18::b19::b20::b21::b22::b23::rest)
local notation "H" => ([b0, b1, b2, b3, b4, b5, b6, b7, b8, b9, b10, b11, b12, b13, b14, b15, b16, b17, b18, b19, b20, b21, b22, b23] : Bytes)

theorem take24 : (HB).take 24 = H := by simp [List.take]

theorem isJPEG_eq : isJPEG HB = .ok (sigJPEG H) := by
  simp only [isJPEG, sigJPEG, gidx_zero, gidx_succ, geq_ok, gand_ok, hasAt_cons, hasAt_nil, Bool.and_true]

theorem isJPEG2000_eq : isJPEG2000 HB = .ok (sigJP2 H) := by
  simp only [isJPEG2000, sigJP2, gidx_zero, gidx_succ, geq_ok, gand_ok, hasAt_cons, hasAt_nil, Bool.and_true, Bool.and_assoc]

theorem isCRW_eq : isCRW HB = .ok (sigCRW H) := by
  simp only [isCRW, sigCRW, gidx_zero, gidx_succ, geq_ok, gand_ok, hasAt_succ, hasAt_cons, hasAt_nil, Bool.and_true,
    Bool.and_assoc]

theorem isTiff_eq : isTiff HB = .ok (sigTIFF H) := by
  have hl : (HB).length > 4 := by
    simp only [List.length_cons]
    omega
  simp only [isTiff, sigTIFF, IsTiffBigEndian, IsTiffLittleEndian, Outcome.bind_ok, gslice_cons, gslice_zero,
    gidx_zero, gidx_succ, geq_ok, gand_ok, gor_ok, ggt_ok, hasAt_cons, hasAt_nil, Bool.and_true, Bool.and_assoc, hl,
    decide_true, Bool.true_and]
  rw [Bool.or_comm]

theorem isCR2_eq : isCR2 HB = .ok (sigCR2 H) := by
  simp only [isCR2, sigCR2, isTiff_eq, gidx_zero, gidx_succ, geq_ok, gand_ok, hasAt_succ, hasAt_cons, hasAt_nil,
    Bool.and_true, Bool.and_assoc]

theorem isFTYPBox_eq : isFTYPBox HB = .ok (sigFtyp H) := by
  simp only [isFTYPBox, sigFtyp, gidx_zero, gidx_succ, geq_ok, gand_ok, hasAt_succ, hasAt_cons, hasAt_nil, Bool.and_true,
    Bool.and_assoc]

theorem isCR3_eq : isCR3 HB = .ok (sigCR3 H) := by
  simp only [isCR3, sigCR3, isFTYPBox_eq, isFTYPBrand, crx_, Outcome.bind_ok, gslice_succ, gslice_cons, gslice_zero,
    geq_ok, gand_ok, hasAt_succ, hasAt_cons, hasAt_nil, List.cons_beq_cons, List.beq_nil_eq, List.isEmpty_nil]

theorem isAVIF_eq : isAVIF HB = .ok (sigAVIF H) := by
  simp only [isAVIF, sigAVIF, isFTYPBox_eq, isFTYPBrand, avif, mif1, Outcome.bind_ok, gslice_succ, gslice_cons, gslice_zero,
    geq_ok, gand_ok, gor_ok, hasAt_succ, hasAt_cons, hasAt_nil, List.cons_beq_cons, List.beq_nil_eq, List.isEmpty_nil]

theorem isHeif_eq : isHeif HB = .ok (sigHEIF H) := by
  simp only [isHeif, sigHEIF, isFTYPBox_eq, isFTYPBrand, heic, heix, mif1, msf1, hevc, Outcome.bind_ok, gslice_succ,
    gslice_cons, gslice_zero, geq_ok, gand_ok, gor_ok, hasAt_succ, hasAt_cons, hasAt_nil, List.cons_beq_cons,
    List.beq_nil_eq, List.isEmpty_nil]

theorem isRW2_eq : isRW2 HB = .ok (sigRW2 H) := by
  simp only [isRW2, sigRW2, gidx_zero, gidx_succ, geq_ok, gand_ok, hasAt_succ, hasAt_cons, hasAt_nil, Bool.and_true,
    Bool.and_assoc]

theorem isPNG_eq : isPNG HB = .ok (sigPNG H) := by
  simp only [isPNG, sigPNG, gidx_zero, gidx_succ, geq_ok, gand_ok, hasAt_cons, hasAt_nil, Bool.and_true, Bool.and_assoc]

theorem isPSD_eq : isPSD HB = .ok (sigPSD H) := by
  simp only [isPSD, sigPSD, gidx_zero, gidx_succ, geq_ok, gand_ok, hasAt_cons, hasAt_nil, Bool.and_true, Bool.and_assoc]

theorem isBMP_eq : isBMP HB = .ok (sigBMP H) := by
  simp only [isBMP, sigBMP, gidx_zero, gidx_succ, geq_ok, gand_ok, hasAt_cons, hasAt_nil, Bool.and_true]

theorem isWebP_eq : isWebP HB = .ok (sigWebP H) := by
  simp only [isWebP, sigWebP, gidx_zero, gidx_succ, geq_ok, gand_ok, hasAt_succ, hasAt_cons, hasAt_nil, Bool.and_true,
    Bool.and_assoc]

theorem isXMP_eq : isXMP HB = .ok (sigXMP H) := by
  simp only [isXMP, sigXMP, gidx_zero, gidx_succ, geq_ok, gand_ok, hasAt_cons, hasAt_nil, Bool.and_true, Bool.and_assoc]

theorem isGIF_eq : isGIF HB = .ok (sigGIF H) := by
  simp only [isGIF, sigGIF, gidx_zero, gidx_succ, geq_ok, gand_ok, gor_ok, hasAt_cons, hasAt_nil, Bool.and_true,
    Bool.and_assoc, Bool.and_or_distrib_left, Bool.and_or_distrib_right]

theorem isPPM_eq : isPPM HB = .ok (sigPPM H) := by
  simp only [isPPM, sigPPM, gidx_zero, gidx_succ, geq_ok, gand_ok, gor_ok, hasAt_succ, hasAt_cons, hasAt_nil, Bool.and_true,
    Bool.and_assoc, Bool.or_assoc, ← Bool.and_or_distrib_left]

theorem parseBuffer_eq : parseBuffer HB = .ok (classify H) := by
  simp only [parseBuffer, isJPEG_eq, isJPEG2000_eq, isCRW_eq, isTiff_eq, isCR2_eq, isFTYPBox_eq, isCR3_eq, isAVIF_eq, isHeif_eq, isRW2_eq, isPNG_eq, isPSD_eq, isBMP_eq, isWebP_eq, isXMP_eq, isGIF_eq, isPPM_eq, gif_ok]
  simp only [classify, firstMatch, table, apply_ite (Option.getD · ImageUnknown), Option.getD_some, Option.getD_none,
    apply_ite Outcome.ok]
  simp only [sigCR3, sigAVIF, sigHEIF]
  by_cases hf : sigFtyp H = true <;> simp [hf]

end

/-- **Tie lemma.** For every buffer of at least 24 bytes the generated `parseBuffer`
returns normally with the specified classification of its first 24 bytes. -/
theorem parseBuffer_spec (b : Bytes) (h : 24 ≤ b.length) :
    parseBuffer b = .ok (classify (b.take 24)) := by
  obtain ⟨b0, b1, b2, b3, b4, b5, b6, b7, b8, b9, b10, b11, b12, b13, b14, b15, b16, b17, b18, b19, b20, b21, b22, b23, rest, rfl⟩ := destruct24 b h
  rw [take24, parseBuffer_eq]

end Imeta.ImageType
