/- One-instruction lemmas for the assembly semantics, used to execute generated instruction tables symbolically. -/
import Imeta.Model.AsmSem
namespace Imeta.AsmSem

def Ins.next (P : String → Int) (pc : Nat) (regs : Nat → Int) (tr : List Acc) : Ins → Option S
  | .movP p d => some ⟨pc + 1, upd regs d (P p), tr, false⟩
  | .movR a d => some ⟨pc + 1, upd regs d (regs a), tr, false⟩
  | .imul a d => some ⟨pc + 1, upd regs d (regs d * regs a), tr, false⟩
  | .add a d => some ⟨pc + 1, upd regs d (regs d + regs a), tr, false⟩
  | .addI v d => some ⟨pc + 1, upd regs d (regs d + v), tr, false⟩
  | .zero d => some ⟨pc + 1, upd regs d 0, tr, false⟩
  | .jmp t => some ⟨t, regs, tr, false⟩
  | .load b i sc w => some ⟨pc + 1, regs, tr ++ [⟨b, regs i * sc, w, false⟩], false⟩
  | .store b i sc w => some ⟨pc + 1, regs, tr ++ [⟨b, regs i * sc, w, true⟩], false⟩
  | .nop => some ⟨pc + 1, regs, tr, false⟩
  | .cmpje .. | .ret => none

variable {f : Nat → Ins} {P : String → Int}

theorem step_next {pc regs tr s'} (h : (f pc).next P pc regs tr = some s') : step f P ⟨pc, regs, tr, false⟩ = s' := by
  cases hi : f pc <;> simp only [hi, Ins.next, Option.some.injEq, reduceCtorEq] at h <;> subst h <;> simp [step, hi]

theorem step_cmpje_ne {pc regs tr a b t} (h : f pc = .cmpje a b t) (hne : regs a ≠ regs b) : step f P ⟨pc, regs, tr, false⟩ = ⟨pc + 1, regs, tr, false⟩ := by simp [step, h, hne]
theorem step_cmpje_eq {pc regs tr a b t} (h : f pc = .cmpje a b t) (he : regs a = regs b) : step f P ⟨pc, regs, tr, false⟩ = ⟨t, regs, tr, false⟩ := by simp [step, h, he]
theorem step_ret {pc regs tr} (h : f pc = .ret) : step f P ⟨pc, regs, tr, false⟩ = ⟨pc, regs, tr, true⟩ := by simp [step, h]

end Imeta.AsmSem
