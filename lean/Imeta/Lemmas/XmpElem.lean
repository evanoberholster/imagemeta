/-
  C13: tags and element values.  The scan for '<' over its growing windows (`findTagStart_exact`) and the four shapes of a
  tag header behind any run without '<': `<ns:name>`, `</ns:name>`, `<ns:name ` before attributes, `<ns:name/>`; an element
  value of any length the three windows hold (`readTagValue_any`) and the empty value before a nested tag
  (`readTagValue_empty`); a start tag together with its attributes (`openTag`), a stop tag (`readTag_stop`), and a whole
  simple element `<ns:name>v</ns:name>` as one round of readTag (`readTag_element_exact`).
  `elem_value_exact` stands here under `namespace Imeta.Props.C13`: it is a property theorem of C13.
-/
import Imeta.Lemmas.XmpAttr
namespace Imeta.Props.C13
open Imeta.Xmp

/-- **Element form, one look-ahead window.** If the window holds a value v without '<' that does not start with white
space, followed by '<', the reader returns exactly v and consumes exactly v — also when v starts with '>' or "/>"
(known_findings, d2f2bac: a leading '>' or "/>" dropped). -/
theorem elem_value_exact (f sz : Nat) (st : St) (v t' : Bytes) (c : UInt8) (v' : Bytes) (hvc : v = c :: v')
    (hlt : ∀ x ∈ v, (x == 60) = false) (hc : isWs c = false)
    (hbuf : peek sz st = (.ok (v ++ [60] ++ t'), st)) :
    readTagValue (f + 1) sz 0 0 st = (.ok v, { st with rest := st.rest.drop v.length }) := by
  unfold readTagValue
  rw [bind_ok hbuf]
  simp only [beq_self_eq_true, if_true]
  have hws : idxFrom (fun b => !isWs b) (v ++ [60] ++ t') 0 = 0 := by
    subst hvc
    unfold idxFrom
    simp [List.findIdx_cons, hc]
  have hk : idxFrom (fun x => x == 60) (v ++ [60] ++ t') 0 = v.length := by
    unfold idxFrom
    simp only [List.drop_zero, Nat.zero_add, List.append_assoc]
    exact findIdx_stretch _ v _ 60 hlt rfl
  have hl : v.length < (v ++ [60] ++ t' : Bytes).length := by simp
  simp only [hws, hk]
  rw [if_pos hl]
  simp only [List.drop_zero, Nat.sub_zero, List.append_assoc, List.take_left']
  rfl

end Imeta.Props.C13

namespace Imeta.Xmp

/-- the outcome of the scan for the start of a tag, as a function of the byte `c` after the '<' -/
def tagStartResult (st : St) (n : Nat) (c : UInt8) : Except XErr (TagT × Bytes × Nat) × St :=
  if c == 47 then (.ok (.stop, (st.rest.take (n + 128)).drop (n + 2), n + 2), st)
  else if c == 63 then (.error .eof, st)
  else (.ok (.start, (st.rest.take (n + 128)).drop (n + 1), n + 1), st)

theorem findTagStart_found (ws T : Bytes) (c : UInt8) (hws : ∀ x ∈ ws, (x == 60) = false) (hwin : ws.length + 128 ≤ W)
    (f sz i : Nat) (st : St) (hr : st.rest = ws ++ 60 :: c :: T) (h4 : 4 < st.rest.length)
    (hi : i ≤ ws.length) (hsz : sz ≤ ws.length + 128) (hlt : ws.length < sz) :
    findTagStart (f + 1) sz i st = tagStartResult st ws.length c := by
  have hL : st.rest.length = ws.length + 2 + T.length := by rw [hr]; simp; omega
  unfold findTagStart
  rw [bind_ok (peek_take sz st (by omega) h4)]
  -- the window reaches beyond the run: the search from `i` finds the '<' behind it
  have hk : idxFrom (fun x => x == 60) (st.rest.take sz) i = ws.length := by
    rw [hr, take_through _ _ _ hlt]; exact idxFrom_found _ ws _ 60 i hi (fun x hx => hws x (List.mem_of_mem_drop hx)) rfl
  rw [hk, List.length_take, if_pos (by omega)]
  -- the second look: 128 bytes from the '<' on, whether the first window had them (`sz = ws.length + 128`) or not
  have hwide : (if min sz st.rest.length - ws.length < 128 then peekWide (min (ws.length + 128) W) (st.rest.take sz)
      else (pure (st.rest.take sz) : M Bytes)) st = (.ok (st.rest.take (ws.length + 128)), st) := by
    split
    · unfold peekWide
      rw [Nat.min_eq_left hwin, List.length_take, if_pos (by omega)]
    · rw [show sz = ws.length + 128 by omega]; rfl
  rw [bind_ok hwide, List.length_take, if_neg (by omega)]
  -- the byte behind the '<' is in that look-ahead and decides: '/', '?', or the first byte of a name
  have hc : (st.rest.take (ws.length + 128))[ws.length + 1]? = some c := by
    rw [List.getElem?_take_of_lt (by omega), hr]
    simp
  rw [bind_ok (at_ok _ _ c st hc)]
  unfold tagStartResult
  split
  · rfl
  · split
    · rfl
    · rfl

/-- **readTagHeader's look-ahead, all windows.** Behind any run `ws` without '<' (up to W − 128 bytes) the scan finds the '<',
consumes nothing and hands on a look-ahead of at least 128 bytes from the '<' on (or everything up to the end of the packet).
So a tag is read whole when it fits 128 bytes from its '<': `<n0 ns:name>` is `ns.length + name.length + 4` bytes, `</…>` and
`<…/>` one more — the `+ 4 ≤ 128` and `+ 5 ≤ 128` below; `Name.OK.hfit` asks the larger, for both tags of an element. -/
theorem findTagStart_exact (ws T : Bytes) (c : UInt8) (hws : ∀ x ∈ ws, (x == 60) = false) (hwin : ws.length + 128 ≤ W) :
    ∀ (f sz i : Nat) (st : St), st.rest = ws ++ 60 :: c :: T → 4 < st.rest.length →
      i ≤ ws.length → sz ≤ ws.length + 128 → ws.length < sz + 128 * f →
      findTagStart (f + 1) sz i st = tagStartResult st ws.length c := by
  intro f
  induction f with
  | zero =>
    intro sz i st hr h4 hi hsz hf
    exact findTagStart_found ws T c hws hwin 0 sz i st hr h4 hi hsz (by omega)
  | succ f ih =>
    intro sz i st hr h4 hi hsz hf
    by_cases hlt : ws.length < sz
    · exact findTagStart_found ws T c hws hwin (f + 1) sz i st hr h4 hi hsz hlt
    · -- the window ends inside the run: one more round
      unfold findTagStart
      rw [bind_ok (peek_take sz st (by omega) h4)]
      have hb : st.rest.take sz = ws.take sz := by
        rw [hr, List.take_append_of_le_length (by omega)]
      have hnone := idxFrom_none (fun x => x == 60) (ws.take sz) i (fun x hx => hws x (List.mem_of_mem_take hx))
      rw [hb]
      rw [if_neg (by omega)]
      have hl : (ws.take sz).length = sz := by rw [List.length_take]; omega
      exact ih (sz + 128) (max i (ws.take sz).length) st hr h4 (by rw [hl]; omega) (by omega) (by omega)

/-- The bytes that end a tag name for parseTagName: '>', white space, '/'. -/
def isTerm (x : UInt8) : Bool := x == 62 || isWs x || x == 47

theorem parseTagName_exact (ns name X : Bytes) (term : UInt8)
    (hns : ∀ x ∈ ns, (x == 58) = false) (hname : ∀ x ∈ name, isTerm x = false) (hterm : isTerm term = true) :
    parseTagName (ns ++ 58 :: (name ++ term :: X)) = some (identify ns name, ns.length + 1 + name.length) := by
  unfold parseTagName
  simp only [idxFrom_stretch _ ns _ 58 hns rfl, idxFrom_append_add, idxFrom_cons_succ,
    idxFrom_stretch (fun x => x == 62 || isWs x || x == 47) name X term hname hterm]
  rw [if_pos (by simp), show ns.length + (name.length + 1) = ns.length + 1 + name.length by omega]
  simp

theorem findTagStart_start (ws : Bytes) (n0 : UInt8) (TAG R : Bytes) (st : St) (hr : st.rest = ws ++ 60 :: ((n0 :: TAG) ++ R))
    (hws : ∀ x ∈ ws, (x == 60) = false) (hwin : ws.length + 128 ≤ W) (h0 : n0 ≠ 47 ∧ n0 ≠ 63) (hfit : TAG.length + 2 ≤ 128)
    (h4 : 4 < st.rest.length) :
    ∃ X, findTagStart 16 128 0 st = (.ok (.start, (n0 :: TAG) ++ X, ws.length + 1), st) := by
  have hf := findTagStart_exact ws (TAG ++ R) n0 hws hwin 15 128 0 st (by rw [hr]; simp) h4 (Nat.zero_le _) (by omega) (by unfold W at hwin; omega)
  refine ⟨R.take (ws.length + 128 - (ws ++ [60]).length - (n0 :: TAG).length), ?_⟩
  rw [hf, tagStartResult, if_neg (by simp [h0.1]), if_neg (by simp [h0.2])]
  rw [show st.rest = (ws ++ [60]) ++ ((n0 :: TAG) ++ R) by rw [hr]; simp, take_prefix _ _ (by simp),
    List.drop_left' (by simp), take_prefix _ _ (by simp; omega)]

theorem findTagStart_stop (ws TAG R : Bytes) (st : St) (hr : st.rest = ws ++ 60 :: 47 :: (TAG ++ R))
    (hws : ∀ x ∈ ws, (x == 60) = false) (hwin : ws.length + 128 ≤ W) (hfit : TAG.length + 2 ≤ 128) (h4 : 4 < st.rest.length) :
    ∃ X, findTagStart 16 128 0 st = (.ok (.stop, TAG ++ X, ws.length + 2), st) := by
  have hf := findTagStart_exact ws (TAG ++ R) 47 hws hwin 15 128 0 st hr h4 (Nat.zero_le _) (by omega) (by unfold W at hwin; omega)
  refine ⟨R.take (ws.length + 128 - (ws ++ [60, 47]).length - TAG.length), ?_⟩
  rw [hf, tagStartResult, if_pos (by decide)]
  rw [show st.rest = (ws ++ [60, 47]) ++ (TAG ++ R) by rw [hr]; simp, take_prefix _ _ (by simp),
    List.drop_left' (by simp), take_prefix _ _ (by simp; omega)]

theorem readTagHeader_after (parent : Tag) (st : St) (t : TagT) (buf : Bytes) (i : Nat) (NS name X R : Bytes)
    (hf : findTagStart 16 128 0 st = (.ok (t, buf, i), st))
    (hb : buf = NS ++ 58 :: (name ++ 62 :: X))
    (hns : ∀ x ∈ NS, (x == 58) = false) (hname : ∀ x ∈ name, isTerm x = false)
    (hdrop : st.rest.drop (NS.length + 1 + name.length + 1 + i) = R) :
    readTagHeader parent st = (.ok { t := t, parent := parent.self, self := identify NS name }, { st with a := false, rest := R }) := by
  unfold readTagHeader
  rw [bind_ok hf]
  simp only [hb, parseTagName_exact NS name X 62 hns hname (by decide)]
  have hc : (NS ++ 58 :: (name ++ 62 :: X) : Bytes)[NS.length + 1 + name.length]? = some 62 :=
    getElem?_prefix (NS ++ 58 :: name) 62 X (by simp) (by simp; omega)
  rw [bind_ok (at_ok _ _ 62 st hc)]
  simp only [beq_self_eq_true, if_true]
  simp only [setA, discard, bind, pure, hdrop]

theorem readTagHeader_after_ws (parent : Tag) (st : St) (t : TagT) (buf : Bytes) (i : Nat) (NS name X R : Bytes) (w : UInt8)
    (hf : findTagStart 16 128 0 st = (.ok (t, buf, i), st))
    (hb : buf = NS ++ 58 :: (name ++ w :: X)) (hw : isWs w = true)
    (hns : ∀ x ∈ NS, (x == 58) = false) (hname : ∀ x ∈ name, isTerm x = false)
    (hdrop : st.rest.drop (NS.length + 1 + name.length + i) = R) :
    readTagHeader parent st = (.ok { t := t, parent := parent.self, self := identify NS name }, { st with a := true, rest := R }) := by
  unfold readTagHeader
  rw [bind_ok hf]
  simp only [hb, parseTagName_exact NS name X w hns hname (by simp [isTerm, hw])]
  have hc : (NS ++ 58 :: (name ++ w :: X) : Bytes)[NS.length + 1 + name.length]? = some w :=
    getElem?_prefix (NS ++ 58 :: name) w X (by simp) (by simp; omega)
  rw [bind_ok (at_ok _ _ w st hc)]
  simp only [(isWs_ne hw).1, Bool.false_eq_true, if_false, hw, if_true]
  simp only [setA, discard, bind, pure, hdrop]

theorem readTagHeader_after_solo (parent : Tag) (st : St) (t : TagT) (buf : Bytes) (i : Nat) (NS name X R : Bytes)
    (hf : findTagStart 16 128 0 st = (.ok (t, buf, i), st))
    (hb : buf = NS ++ 58 :: (name ++ 47 :: 62 :: X))
    (hns : ∀ x ∈ NS, (x == 58) = false) (hname : ∀ x ∈ name, isTerm x = false)
    (hdrop : st.rest.drop (NS.length + 1 + name.length + 2 + i) = R) :
    readTagHeader parent st = (.ok { t := .solo, parent := parent.self, self := identify NS name }, { st with a := false, rest := R }) := by
  unfold readTagHeader
  rw [bind_ok hf]
  simp only [hb, parseTagName_exact NS name (62 :: X) 47 hns hname (by decide)]
  have hc : (NS ++ 58 :: (name ++ 47 :: 62 :: X) : Bytes)[NS.length + 1 + name.length]? = some 47 :=
    getElem?_prefix (NS ++ 58 :: name) 47 (62 :: X) (by simp) (by simp; omega)
  have hc1 : (NS ++ 58 :: (name ++ 47 :: 62 :: X) : Bytes)[NS.length + 1 + name.length + 1]? = some 62 :=
    getElem?_prefix (NS ++ 58 :: (name ++ [47])) 62 X (by simp) (by simp; omega)
  rw [bind_ok (at_ok _ _ 47 st hc)]
  simp only [show ((47 : UInt8) == 62) = false by decide, show isWs 47 = false by decide, Bool.false_eq_true, if_false]
  rw [bind_ok (at_ok _ _ 62 st hc1)]
  simp only [beq_self_eq_true, if_true]
  simp only [setA, discard, bind, pure, hdrop]

theorem readTagHeader_start_exact (parent : Tag) (st : St) (ws : Bytes) (n0 : UInt8) (ns name R : Bytes)
    (hr : st.rest = ws ++ 60 :: ((n0 :: ns) ++ 58 :: (name ++ 62 :: R)))
    (hws : ∀ x ∈ ws, (x == 60) = false) (hwin : ws.length + 128 ≤ W)
    (h0 : n0 ≠ 47 ∧ n0 ≠ 63) (hns : ∀ x ∈ n0 :: ns, (x == 58) = false) (hname : ∀ x ∈ name, isTerm x = false)
    (hfit : ns.length + name.length + 4 ≤ 128) (h4 : 4 < st.rest.length) :
    readTagHeader parent st = (.ok { t := .start, parent := parent.self, self := identify (n0 :: ns) name }, { st with a := false, rest := R }) := by
  obtain ⟨X, hf⟩ := findTagStart_start ws n0 (ns ++ 58 :: (name ++ [62])) R st (by rw [hr]; simp) hws hwin h0 (by simp; omega) h4
  refine readTagHeader_after parent st .start _ (ws.length + 1) (n0 :: ns) name X R hf (by simp) hns hname ?_
  rw [hr, show (ws ++ 60 :: ((n0 :: ns) ++ 58 :: (name ++ 62 :: R)) : Bytes) = (ws ++ 60 :: ((n0 :: ns) ++ 58 :: (name ++ [62]))) ++ R by simp,
    List.drop_left' (by simp; omega)]

theorem readTagHeader_stop_exact (parent : Tag) (st : St) (ws : Bytes) (n0 : UInt8) (ns name R : Bytes)
    (hr : st.rest = ws ++ 60 :: 47 :: ((n0 :: ns) ++ 58 :: (name ++ 62 :: R)))
    (hws : ∀ x ∈ ws, (x == 60) = false) (hwin : ws.length + 128 ≤ W)
    (hns : ∀ x ∈ n0 :: ns, (x == 58) = false) (hname : ∀ x ∈ name, isTerm x = false)
    (hfit : ns.length + name.length + 5 ≤ 128) :
    readTagHeader parent st = (.ok { t := .stop, parent := parent.self, self := identify (n0 :: ns) name }, { st with a := false, rest := R }) := by
  obtain ⟨X, hf⟩ := findTagStart_stop ws ((n0 :: ns) ++ 58 :: (name ++ [62])) R st (by rw [hr]; simp) hws hwin (by simp; omega)
    (by rw [hr]; simp; omega)
  refine readTagHeader_after parent st .stop _ (ws.length + 2) (n0 :: ns) name X R hf (by simp) hns hname ?_
  rw [hr, show (ws ++ 60 :: 47 :: ((n0 :: ns) ++ 58 :: (name ++ 62 :: R)) : Bytes) = (ws ++ 60 :: 47 :: ((n0 :: ns) ++ 58 :: (name ++ [62]))) ++ R by simp,
    List.drop_left' (by simp; omega)]

theorem readTagHeader_startattr_exact (parent : Tag) (st : St) (ws : Bytes) (n0 : UInt8) (ns name R : Bytes) (w : UInt8)
    (hr : st.rest = ws ++ 60 :: ((n0 :: ns) ++ 58 :: (name ++ w :: R))) (hw : isWs w = true)
    (hws : ∀ x ∈ ws, (x == 60) = false) (hwin : ws.length + 128 ≤ W)
    (h0 : n0 ≠ 47 ∧ n0 ≠ 63) (hns : ∀ x ∈ n0 :: ns, (x == 58) = false) (hname : ∀ x ∈ name, isTerm x = false)
    (hfit : ns.length + name.length + 4 ≤ 128) (h4 : 4 < st.rest.length) :
    readTagHeader parent st = (.ok { t := .start, parent := parent.self, self := identify (n0 :: ns) name }, { st with a := true, rest := w :: R }) := by
  obtain ⟨X, hf⟩ := findTagStart_start ws n0 (ns ++ 58 :: (name ++ [w])) R st (by rw [hr]; simp) hws hwin h0 (by simp; omega) h4
  refine readTagHeader_after_ws parent st .start _ (ws.length + 1) (n0 :: ns) name X (w :: R) w hf (by simp) hw hns hname ?_
  rw [hr, show (ws ++ 60 :: ((n0 :: ns) ++ 58 :: (name ++ w :: R)) : Bytes) = (ws ++ 60 :: ((n0 :: ns) ++ 58 :: name)) ++ w :: R by simp,
    List.drop_left' (by simp; omega)]

theorem readTagHeader_solo_exact (parent : Tag) (st : St) (ws : Bytes) (n0 : UInt8) (ns name R : Bytes)
    (hr : st.rest = ws ++ 60 :: ((n0 :: ns) ++ 58 :: (name ++ 47 :: 62 :: R)))
    (hws : ∀ x ∈ ws, (x == 60) = false) (hwin : ws.length + 128 ≤ W)
    (h0 : n0 ≠ 47 ∧ n0 ≠ 63) (hns : ∀ x ∈ n0 :: ns, (x == 58) = false) (hname : ∀ x ∈ name, isTerm x = false)
    (hfit : ns.length + name.length + 5 ≤ 128) :
    readTagHeader parent st = (.ok { t := .solo, parent := parent.self, self := identify (n0 :: ns) name }, { st with a := false, rest := R }) := by
  obtain ⟨X, hf⟩ := findTagStart_start ws n0 (ns ++ 58 :: (name ++ [47, 62])) R st (by rw [hr]; simp) hws hwin h0 (by simp; omega)
    (by rw [hr]; simp; omega)
  refine readTagHeader_after_solo parent st .start _ (ws.length + 1) (n0 :: ns) name X R hf (by simp) hns hname ?_
  rw [hr, show (ws ++ 60 :: ((n0 :: ns) ++ 58 :: (name ++ 47 :: 62 :: R)) : Bytes) = (ws ++ 60 :: ((n0 :: ns) ++ 58 :: (name ++ [47, 62]))) ++ R by simp,
    List.drop_left' (by simp; omega)]

theorem readTagValue_round (f sz j : Nat) (st : St) (c : UInt8) (v' t' : Bytes)
    (hv : ∀ x ∈ c :: v', (x == 60) = false) (hc : isWs c = false) (hsz : sz ≤ W) (hj : j ≤ sz) (hjv : j ≤ (c :: v').length)
    (hr : st.rest = (c :: v') ++ 60 :: t') (h4 : 4 < st.rest.length) :
    readTagValue (f + 1) sz 0 j st =
      if (c :: v').length < sz then (.ok (c :: v'), { st with rest := 60 :: t' }) else readTagValue f (sz + 512) 0 sz st := by
  have hL : st.rest.length = (c :: v').length + 1 + t'.length := by rw [hr]; simp; omega
  conv => lhs; unfold readTagValue
  rw [bind_ok (peek_take sz st hsz h4)]
  -- there is no leading white space, so the value starts at 0 whether or not the search for '<' has begun
  have hi0 : idxFrom (fun b => !isWs b) (st.rest.take sz) 0 = 0 := by
    rw [idxFrom_take _ _ (Nat.zero_le _), hr, List.cons_append, idxFrom_head _ _ _ (by simp [hc])]; omega
  have hij : (if (0 == j) = true then (idxFrom (fun b => !isWs b) (st.rest.take sz) 0, idxFrom (fun b => !isWs b) (st.rest.take sz) 0) else (0, j)) = (0, j) := by
    split
    · next h => rw [hi0, ← eq_of_beq h]
    · rfl
  -- the search for '<' ends at the end of the value or of the window, whichever comes first
  have hk : idxFrom (fun x => x == 60) (st.rest.take sz) j = min sz (c :: v').length := by
    rw [idxFrom_take _ _ hj, hr, idxFrom_found _ _ _ 60 j hjv (fun x hx => hv x (List.mem_of_mem_drop hx)) rfl]
  simp only [hij, hk, List.length_take, List.drop_zero, Nat.sub_zero, List.take_take]
  by_cases h : (c :: v').length < sz
  · rw [if_pos h, if_pos (by omega), Nat.min_eq_right (Nat.le_of_lt h), Nat.min_eq_left (Nat.le_of_lt h)]
    show (Except.ok (st.rest.take (c :: v').length), ({ st with rest := st.rest.drop (c :: v').length } : St)) = _
    rw [hr, List.take_left, List.drop_left]
  · rw [if_neg h, if_neg (by omega), Nat.min_eq_left (by omega), Nat.max_eq_right hj]

theorem readTagValue_any (st : St) (c : UInt8) (v' t' : Bytes)
    (hv : ∀ x ∈ c :: v', (x == 60) = false) (hc : isWs c = false) (hlen : (c :: v').length < 1536)
    (hr : st.rest = (c :: v') ++ 60 :: t') (h4 : 4 < st.rest.length) :
    readTagValue 8 512 0 0 st = (.ok (c :: v'), { st with rest := 60 :: t' }) := by
  have hW : 1536 ≤ W := by decide
  rw [readTagValue_round 7 512 0 st c v' t' hv hc (by omega) (by omega) (by omega) hr h4]
  split
  · rfl
  rw [readTagValue_round 6 1024 512 st c v' t' hv hc (by omega) (by omega) (by omega) hr h4]
  split
  · rfl
  rw [readTagValue_round 5 1536 1024 st c v' t' hv hc (by omega) (by omega) (by omega) hr h4, if_pos hlen]

theorem readTagValue_empty (f : Nat) (st : St) (ws X : Bytes) (hr : st.rest = ws ++ 60 :: X)
    (hws : ∀ x ∈ ws, isWs x = true) (hwin : ws.length < 512) (h4 : 4 < st.rest.length) :
    readTagValue (f + 1) 512 0 0 st = (.ok [], { st with rest := 60 :: X }) := by
  unfold readTagValue
  rw [bind_ok (peek_take 512 st (by unfold W; omega) h4)]
  simp only [beq_self_eq_true, if_true]
  have hb : st.rest.take 512 = ws ++ 60 :: (X.take (512 - ws.length - 1)) := by rw [hr, take_through _ _ _ hwin]
  rw [hb]
  have hi : idxFrom (fun b => !isWs b) (ws ++ 60 :: (X.take (512 - ws.length - 1))) 0 = ws.length :=
    idxFrom_found _ ws _ 60 0 (Nat.zero_le _) (by intro x hx; simp at hx; simp [hws x hx]) (by decide)
  have hk : idxFrom (fun x => x == 60) (ws ++ 60 :: (X.take (512 - ws.length - 1))) ws.length = ws.length :=
    idxFrom_found _ ws _ 60 ws.length (Nat.le_refl _) (by simp) rfl
  simp only [hi, hk]
  rw [if_pos (by simp)]
  simp only [discard, bind, pure, Nat.sub_self, List.take_zero]
  rw [hr, List.drop_left]

/-- a simple property in element form: `<ns:name>v</ns:name>` -/
structure Elem where
  n0 : UInt8
  ns : Bytes
  name : Bytes
  c : UInt8
  v' : Bytes

def Elem.v (e : Elem) : Bytes := e.c :: e.v'
def Elem.prop (e : Elem) : Prop2 := identify (e.n0 :: e.ns) e.name
def Elem.close (e : Elem) : Bytes := 60 :: 47 :: ((e.n0 :: e.ns) ++ 58 :: (e.name ++ [62]))
def Elem.bytes (e : Elem) : Bytes := 60 :: ((e.n0 :: e.ns) ++ 58 :: (e.name ++ 62 :: (e.v ++ e.close)))

/-- `hfit`: see `findTagStart_exact`; `hc`: leading white space is not part of an element's value (readTagValue skips it);
`hvwin`: the value may end in any of readTagValue's three windows, 512 / 1024 / 1536 bytes -/
structure Elem.OK (e : Elem) : Prop where
  h0 : e.n0 ≠ 47 ∧ e.n0 ≠ 63
  hns : ∀ x ∈ e.n0 :: e.ns, (x == 58) = false
  hname : ∀ x ∈ e.name, isTerm x = false
  hfit : e.ns.length + e.name.length + 5 ≤ 128
  hc : isWs e.c = false
  hv : ∀ x ∈ e.v, (x == 60) = false
  hvwin : e.v.length < 1536
  hseq : (e.prop == rdfSeq || e.prop == rdfAlt || e.prop == rdfBag) = false
  hroot : (e.prop == rootProp) = false

/-- A tag name `ns:name` with the first byte `n0` of its prefix kept apart: `Name.OK` asks that it is neither '/' nor '?',
which findTagStart takes for a stop tag and for a processing instruction. -/
structure Name where
  n0 : UInt8
  ns : Bytes
  name : Bytes

def Name.prop (n : Name) : Prop2 := identify (n.n0 :: n.ns) n.name
def Name.openT (n : Name) (R : Bytes) : Bytes := 60 :: ((n.n0 :: n.ns) ++ 58 :: (n.name ++ 62 :: R))
def Name.closeT (n : Name) (R : Bytes) : Bytes := 60 :: 47 :: ((n.n0 :: n.ns) ++ 58 :: (n.name ++ 62 :: R))

structure Name.OK (n : Name) : Prop where
  h0 : n.n0 ≠ 47 ∧ n.n0 ≠ 63
  hns : ∀ x ∈ n.n0 :: n.ns, (x == 58) = false
  hname : ∀ x ∈ n.name, isTerm x = false
  hfit : n.ns.length + n.name.length + 5 ≤ 128

def nameOf (e : Elem) : Name := { n0 := e.n0, ns := e.ns, name := e.name }

theorem Elem.OK.name {e : Elem} (ok : e.OK) : (nameOf e).OK := ⟨ok.h0, ok.hns, ok.hname, ok.hfit⟩

theorem isEndTag_start (p q r : Prop2) : isEndTag { t := .start, parent := p, self := q } r = false := by simp [isEndTag]
theorem isRootStop_start (p q : Prop2) : isRootStop { t := .start, parent := p, self := q } = false := by simp [isRootStop]
theorem isEndTag_stop (p q : Prop2) : isEndTag { t := .stop, parent := p, self := q } q = true := by simp [isEndTag]

/-- `<D attrs>` as written, followed by `R`; without attributes it is `D.openT R` -/
def openA (D : Name) (la : List (Bytes × Attr)) (R : Bytes) : Bytes :=
  60 :: ((D.n0 :: D.ns) ++ 58 :: (D.name ++ (ser la ++ 62 :: R)))

/-- A run of bytes between two tags: no '<', and short enough for the 128 bytes of look-ahead from the '<' behind it to lie
inside the buffer: at most W − 128 = 1410 bytes (the scan's windows grow by 128 up to 1536). -/
def Gap (ws : Bytes) : Prop := (∀ x ∈ ws, (x == 60) = false) ∧ ws.length + 128 ≤ W

theorem Gap.nil : Gap [] := ⟨by simp, by unfold W; simp⟩

def AttrsOK (la : List (Bytes × Attr)) : Prop := ∀ p ∈ la, (∀ x ∈ p.1, isWs x = true) ∧ p.1 ≠ [] ∧ p.2.OK

theorem AttrsOK.nil : AttrsOK [] := fun _ h => nomatch h

theorem ser_length (l : List (Bytes × Attr)) : l.length ≤ (ser l).length := by
  induction l with
  | nil => simp [ser]
  | cons p l ih =>
    simp only [ser, List.length_cons, List.length_append, Attr.bytes]
    simp; omega

/-- **A start tag with its attributes** (none, or each behind white space): the header, then the attribute loop at the fuel
readTag and readSeqTags give it -/
theorem openTag (seqOf : Option Prop2) (parent : Tag) (st : St) (ws : Bytes) (D : Name) (la : List (Bytes × Attr)) (c : UInt8) (R : Bytes)
    (hr : st.rest = ws ++ openA D la (c :: R)) (hg : Gap ws) (hD : D.OK) (hoka : AttrsOK la) :
    ∃ st1, readTagHeader parent st = (.ok { t := .start, parent := parent.self, self := D.prop }, st1) ∧
      attrLoop seqOf (st1.rest.length + 2) { t := .start, parent := parent.self, self := D.prop } st1 =
        (.ok { t := .start, parent := parent.self, self := D.prop }, { rest := c :: R, a := false, toks := pushAttrs seqOf D.prop la st.toks }) := by
  have h4 : 4 < st.rest.length := by rw [hr]; simp [openA]; omega
  cases la with
  | nil =>
    exact ⟨_, readTagHeader_start_exact parent st ws D.n0 D.ns D.name (c :: R) hr hg.1 hg.2 hD.h0 hD.hns hD.hname (by have := hD.hfit; omega) h4,
      attrLoop_noattr seqOf _ _ _ rfl⟩
  | cons p la' =>
    obtain ⟨wsa, a1⟩ := p
    have hp1 := hoka (wsa, a1) (by simp)
    obtain ⟨w, wsa', rfl⟩ := List.exists_cons_of_ne_nil hp1.2.1
    refine ⟨_, readTagHeader_startattr_exact parent st ws D.n0 D.ns D.name (wsa' ++ a1.bytes ++ ser la' ++ 62 :: c :: R) w
      (by rw [hr]; simp [openA, ser]) (hp1.1 w (by simp)) hg.1 hg.2 hD.h0 hD.hns hD.hname (by have := hD.hfit; omega) h4, ?_⟩
    exact attrLoop_any seqOf _ c R _ _ _ (by simp)
      (by have := ser_length ((w :: wsa', a1) :: la'); simp [ser] at this ⊢; omega) rfl (by simp [ser])
      (fun p hp => ⟨(hoka p hp).1, (hoka p hp).2.2⟩) (fun p hp => (hoka p (List.mem_of_mem_tail hp)).2.1)

theorem readTag_close (D : Name) (hD : D.OK) (st : St) (ws R : Bytes) (hr : st.rest = ws ++ D.closeT R) (hg : Gap ws) (f : Nat) (p : Prop2) :
    readTag (f + 1) { t := .start, parent := p, self := D.prop } st =
      (.ok { t := .stop, parent := D.prop, self := D.prop }, { st with a := false, rest := R }) := by
  rw [readTag, bind_ok (readTagHeader_stop_exact _ st ws D.n0 D.ns D.name R hr hg.1 hg.2 hD.hns hD.hname hD.hfit)]
  show (if isEndTag { t := .stop, parent := D.prop, self := D.prop } D.prop = true then pure _ else _ : M Tag) _ = _
  rw [isEndTag_stop, if_pos rfl]; rfl

/-- Behind the stop tag of the element in hand the rounds of its parent go on. -/
theorem readTag_stop (parent : Tag) (D : Name) (hD : D.OK) (hroot : (D.prop == rootProp) = false) (st : St) (ws R : Bytes)
    (hr : st.rest = ws ++ D.closeT R) (hg : Gap ws) (f F : Nat) (p : Prop2) :
    (readTag (f + 1) { t := .start, parent := p, self := D.prop } >>= fun tag => if isRootStop tag then pure tag else readTag F parent) st =
      readTag F parent { st with a := false, rest := R } := by
  rw [bind_ok (readTag_close D hD st ws R hr hg f p), show isRootStop { t := .stop, parent := D.prop, self := D.prop } = false by simpa [isRootStop] using hroot]
  rfl

/-- **Element form, names and all**: one round of readTag over `ws <ns:name>v</ns:name>`, one token. -/
theorem readTag_element_exact (parent : Tag) (st : St) (ws : Bytes) (e : Elem) (R : Bytes) (f : Nat)
    (hr : st.rest = ws ++ e.bytes ++ R) (hg : Gap ws) (ok : e.OK) :
    readTag (f + 2) parent st =
      readTag (f + 1) parent { rest := R, a := false, toks := { pt := 2, parent := parent.self, self := e.prop, val := e.v } :: st.toks } := by
  obtain ⟨st1, hh, ha⟩ := openTag none parent st ws (nameOf e) [] e.c (e.v' ++ e.close ++ R)
    (by rw [hr]; simp [Elem.bytes, openA, nameOf, Elem.v, ser]) hg ok.name AttrsOK.nil
  rw [readTag, bind_ok hh]
  simp only [isEndTag_start, Bool.false_eq_true, if_false]
  rw [len_bind, bind_ok ha]
  have hseq : ((nameOf e).prop == rdfSeq || (nameOf e).prop == rdfAlt || (nameOf e).prop == rdfBag) = false := ok.hseq
  simp only [beq_self_eq_true, if_true, hseq, Bool.false_eq_true, if_false, bind_assoc]
  rw [bind_ok (readTagValue_any _ e.c e.v' (e.close.tail ++ R) ok.hv ok.hc ok.hvwin (by simp [Elem.close]) (by simp [Elem.close]; omega)),
    bind_ok (emit_apply _ _)]
  exact readTag_stop parent (nameOf e) ok.name ok.hroot _ [] R (by simp [Elem.close, Name.closeT, nameOf]) Gap.nil f (f + 1) parent.self

def serE : List (Bytes × Elem) → Bytes
  | [] => []
  | (ws, e) :: l => ws ++ e.bytes ++ serE l

def pushE (parent : Prop2) : List (Bytes × Elem) → List Tok → List Tok
  | [], acc => acc
  | (_, e) :: l, acc => pushE parent l ({ pt := 2, parent := parent, self := e.prop, val := e.v } :: acc)

/-- the same property written as an attribute and as an element -/
def Attr.toElem (a : Attr) (c : UInt8) (v' : Bytes) : Elem := { n0 := a.n0, ns := a.ns, name := a.m0 :: a.name, c := c, v' := v' }

/-- what the value parsers dispatch on -/
def Tok.key (t : Tok) : Prop2 × Prop2 × Bytes := (t.parent, t.self, t.val)

/-- **Attribute form = element form.** The two tokens differ only in the kind (attribute / element) — so do whole lists -/
theorem attr_elem_same_tokens (P : Prop2) : ∀ (l : List (Bytes × Bytes × Attr × UInt8 × Bytes)) (acc acc' : List Tok),
    (∀ p ∈ l, p.2.2.1.v = p.2.2.2.1 :: p.2.2.2.2) → acc.map Tok.key = acc'.map Tok.key →
    (pushAll P (l.map fun p => (p.1, p.2.2.1)) acc).map Tok.key =
    (pushE P (l.map fun p => (p.2.1, p.2.2.1.toElem p.2.2.2.1 p.2.2.2.2)) acc').map Tok.key := by
  intro l
  induction l with
  | nil => intro acc acc' _ h; exact h
  | cons p l ih =>
    intro acc acc' hv h
    obtain ⟨ws, ws', a, c, v'⟩ := p
    have hva : a.v = c :: v' := hv (ws, ws', a, c, v') (by simp)
    simp only [List.map_cons, pushAll, pushE]
    have hne : a.v.isEmpty = false := by rw [hva]; rfl
    simp only [hne, Bool.false_eq_true, if_false]
    apply ih _ _ (fun q hq => hv q (List.mem_cons_of_mem _ hq))
    simp only [List.map_cons, h, Tok.key, Attr.prop, Elem.prop, Attr.toElem, Elem.v, hva]

end Imeta.Xmp
