/-
  The stream primitives `discard`, `fastRead`, `readTagValue0` (`readTagValue` is `readTagValue0` with the ghost record of
  reads appended to, `readTagValue_r`).  They only advance (`Adv`): what they return is the reader they
  were given, or that reader with k ≤ |rest| bytes consumed, up to the hazard flag; that they keep the frame (`Fr`), the fields
  listed in `Keep` (all but the stream, the allocation counter and the hazard flag) and coherence with the file (`Coh F r`: the unread stream is the file from the reader's
  position on) are instances.
  A read of a tag whose value lies at or after the position (a forward read), inside the file and the reader's limits,
  succeeds and returns exactly `F[t.off, t.off + t.size)` (`readTagValue_exact`).
-/
import Imeta.Model.ExifReader
namespace Imeta.Exif
open Imeta

structure Coh (F : Bytes) (r : R) : Prop where
  rest : r.rest = F.drop r.po
  le : r.po ≤ F.length
  small : F.length < 2 ^ 32      -- so that the uint32 position `po` does not wrap

def slice (F : Bytes) (t : Tag) : Bytes := (F.drop t.off).take t.size

/-- largest read the reader can serve: one bufio window, or the scratch buffer when there is no bufio.Reader -/
def readLimit (r : R) : Nat := if r.buffered then bufioSize else scratchSize

theorem readLimit_congr {a b : R} (h : b.buffered = a.buffered) : readLimit b = readLimit a := by unfold readLimit; rw [h]

theorem Coh.restLen {F : Bytes} {r : R} (h : Coh F r) : r.rest.length = F.length - r.po := by
  rw [h.rest, List.length_drop]

theorem Coh.advance {F : Bytes} {r : R} (h : Coh F r) (n : Nat) (hn : n ≤ r.rest.length) :
    Coh F { r with rest := r.rest.drop n, po := (r.po + n) % 2 ^ 32 } := by
  have hl := h.restLen
  have hs := h.small
  have hle := h.le
  have hmod : (r.po + n) % 2 ^ 32 = r.po + n := Nat.mod_eq_of_lt (by omega)
  refine ⟨?_, ?_, hs⟩
  · show r.rest.drop n = F.drop ((r.po + n) % 2 ^ 32)
    rw [hmod, h.rest, List.drop_drop]
  · show (r.po + n) % 2 ^ 32 ≤ F.length
    rw [hmod]; omega

def R.adv (r : R) (k : Nat) : R := { r with rest := r.rest.drop k, po := (r.po + k) % 2 ^ 32 }

def Adv (r r' : R) : Prop :=
  r' = { r with hazard := r'.hazard } ∨ ∃ k, k ≤ r.rest.length ∧ r' = { r.adv k with hazard := r'.hazard }

theorem Adv.trans {a b c : R} (h1 : Adv a b) (h2 : Adv b c) : Adv a c := by
  rcases h1 with e1 | ⟨k, hk, e1⟩ <;> rcases h2 with e2 | ⟨j, hj, e2⟩ <;> rw [e2, e1]
  · exact Or.inl rfl
  · exact Or.inr ⟨j, by rw [e1] at hj; exact hj, rfl⟩
  · exact Or.inr ⟨k, hk, rfl⟩
  · refine Or.inr ⟨k + j, ?_, ?_⟩
    · rw [e1] at hj; simp only [R.adv, List.length_drop] at hj; omega
    · have : ((a.po + k) % 2 ^ 32 + j) % 2 ^ 32 = (a.po + (k + j)) % 2 ^ 32 := by omega
      simp only [R.adv, List.drop_drop, this]

theorem Adv.drain (r : R) : Adv r { r with rest := [], po := (r.po + r.rest.length) % 2 ^ 32 } :=
  Or.inr ⟨_, Nat.le_refl _, by unfold R.adv; rw [List.drop_length]⟩

theorem fastRead_cases (r : R) (n : Nat) :
    ((fastRead r n).err = none ∧ n ≤ r.rest.length ∧ (fastRead r n).buf = r.rest.take n ∧ (fastRead r n).r = r.adv n) ∨
    ((fastRead r n).err ≠ none ∧ Adv r (fastRead r n).r ∧ (fastRead r n).buf.length ≤ r.rest.length ∧
      (fastRead r n).buf.length ≤ bufioSize ∧
      ((r.exifLength ≠ 0 ∧ r.exifLength < r.po + n) ∨ readLimit r < n ∨ r.rest.length < n)) := by
  have stay : Adv r r := Or.inl rfl
  unfold Exif.fastRead readLimit
  by_cases hx : r.exifLength ≠ 0 ∧ r.po + n > r.exifLength
  · rw [if_pos hx]; exact Or.inr ⟨nofun, stay, Nat.zero_le _, Nat.zero_le _, by omega⟩
  · rw [if_neg hx]
    split <;> split
    · exact Or.inr ⟨nofun, stay, List.length_take_le' .., List.length_take_le .., by omega⟩
    · split
      · exact Or.inr ⟨nofun, stay, Nat.le_refl _, (show r.rest.length ≤ bufioSize by omega), by omega⟩
      · exact Or.inl ⟨rfl, by omega, rfl, rfl⟩
    · exact Or.inr ⟨nofun, stay, Nat.zero_le _, Nat.zero_le _, by omega⟩
    · split
      · exact Or.inr ⟨nofun, .drain r, Nat.zero_le _, Nat.zero_le _, by omega⟩
      · exact Or.inl ⟨rfl, by omega, rfl, rfl⟩

theorem Adv.fastRead (r : R) (n : Nat) : Adv r (fastRead r n).r := by
  rcases fastRead_cases r n with ⟨_, h, _, e⟩ | ⟨_, h, _⟩
  · exact Or.inr ⟨n, h, by rw [e]⟩
  · exact h

theorem Adv.discard (r : R) (n : Int) : Adv r (discard r n).1 := by
  unfold Exif.discard
  by_cases h0 : n = 0
  · rw [if_pos h0]; exact Or.inl rfl
  · rw [if_neg h0]
    dsimp only
    generalize (if (r.exifLength : Int) < n + r.po then (r.exifLength : Int) - r.po else n) = m
    split <;> split
    · exact Or.inl rfl
    · split
      · exact Or.inr ⟨_, ‹_›, rfl⟩
      · exact .drain r
    · exact Or.inl rfl
    · split
      · exact Or.inr ⟨_, ‹_›, rfl⟩
      · exact .drain r

/-- the hazard `if` of `readTagValue0` written as a field update, so that the other fields of the reader reduce by `rfl` -/
theorem readTagValue0_eq (r : R) (t : Tag) :
    readTagValue0 r t = match discard { r with hazard := t.isEmbedded || r.hazard } ((t.off : Int) - r.po) with
      | (r1, some e) => { r := r1, buf := [], err := some e }
      | (r1, none) => fastRead r1 t.size := by
  unfold readTagValue0; cases t.isEmbedded <;> rfl

theorem readTagValue0_cases (r : R) (t : Tag) : ∃ r1, Adv r r1 ∧
    ((readTagValue0 r t).err ≠ none ∧ (readTagValue0 r t).buf = [] ∧ (readTagValue0 r t).r = r1 ∨
      readTagValue0 r t = fastRead r1 t.size) := by
  rw [readTagValue0_eq]
  have h := Adv.trans (Or.inl rfl) (Adv.discard { r with hazard := t.isEmbedded || r.hazard } ((t.off : Int) - r.po))
  split
  · rename_i r1 e hd; rw [hd] at h; exact ⟨r1, h, Or.inl ⟨nofun, rfl, rfl⟩⟩
  · rename_i r1 hd; rw [hd] at h; exact ⟨r1, h, Or.inr rfl⟩

theorem Adv.readTagValue0 (r : R) (t : Tag) : Adv r (readTagValue0 r t).r := by
  obtain ⟨r1, h, ⟨_, _, e⟩ | e⟩ := readTagValue0_cases r t <;> rw [e]
  · exact h
  · exact h.trans (Adv.fastRead r1 t.size)

theorem Coh.of_adv {F : Bytes} {r r' : R} (hc : Coh F r) (h : Adv r r') : Coh F r' := by
  rcases h with e | ⟨k, hk, e⟩ <;> rw [e]
  · exact ⟨hc.rest, hc.le, hc.small⟩
  · have := hc.advance k hk; exact ⟨this.rest, this.le, this.small⟩

theorem Coh.discard {F : Bytes} {r : R} (h : Coh F r) (n : Int) : Coh F (discard r n).1 := h.of_adv (Adv.discard r n)

theorem Coh.fastRead {F : Bytes} {r : R} (h : Coh F r) (n : Nat) : Coh F (fastRead r n).r := h.of_adv (Adv.fastRead r n)

theorem readTagValue_r (r : R) (t : Tag) :
    (readTagValue r t).r = { (readTagValue0 r t).r with reads := (readTagValue r t).r.reads } := rfl

theorem readTagValue_buf (r : R) (t : Tag) : (readTagValue r t).buf = (readTagValue0 r t).buf := by
  -- not a bare `rfl`: with `.buf` on both sides that compares `readTagValue r t` with `readTagValue0 r t` first, and
  -- evaluates the latter to do so
  unfold readTagValue; rfl

theorem readTagValue_err (r : R) (t : Tag) : (readTagValue r t).err = (readTagValue0 r t).err := by
  unfold readTagValue; rfl

theorem Coh.readTagValue {F : Bytes} {r : R} (h : Coh F r) (t : Tag) : Coh F (readTagValue r t).r := by
  have := h.of_adv (Adv.readTagValue0 r t)
  rw [readTagValue_r]; exact ⟨this.rest, this.le, this.small⟩

structure Keep (r r' : R) : Prop where
  tags : r'.tags = r.tags
  pos : r'.pos = r.pos
  exl : r'.exifLength = r.exifLength
  buffered : r'.buffered = r.buffered
  reads : r'.reads = r.reads
  ex : r'.ex = r.ex
  parsed : r'.parsed = r.parsed

theorem Keep.refl (r : R) : Keep r r := ⟨rfl, rfl, rfl, rfl, rfl, rfl, rfl⟩
theorem Keep.trans {a b c : R} (h1 : Keep a b) (h2 : Keep b c) : Keep a c :=
  ⟨h2.tags.trans h1.tags, h2.pos.trans h1.pos, h2.exl.trans h1.exl, h2.buffered.trans h1.buffered, h2.reads.trans h1.reads, h2.ex.trans h1.ex, h2.parsed.trans h1.parsed⟩

theorem Keep.of_adv {r r' : R} (h : Adv r r') : Keep r r' := by
  rcases h with e | ⟨k, _, e⟩ <;> rw [e] <;> exact ⟨rfl, rfl, rfl, rfl, rfl, rfl, rfl⟩

theorem Keep.discard (r : R) (n : Int) : Keep r (discard r n).1 := Keep.of_adv (Adv.discard r n)

theorem Keep.fastRead (r : R) (n : Nat) : Keep r (fastRead r n).r := Keep.of_adv (Adv.fastRead r n)

theorem Keep.readTagValue0 (r : R) (t : Tag) : Keep r (readTagValue0 r t).r := Keep.of_adv (Adv.readTagValue0 r t)

theorem alloc_of_adv {r r' : R} (h : Adv r r') : r'.alloc = r.alloc := by
  rcases h with e | ⟨k, _, e⟩ <;> rw [e] <;> rfl

theorem readTagValue_alloc (r : R) (t : Tag) : (readTagValue r t).r.alloc = r.alloc := by
  have := alloc_of_adv (Adv.readTagValue0 r t)
  rw [readTagValue_r]; exact this

structure Fr (r r' : R) : Prop where
  tags : r'.tags = r.tags
  pos : r'.pos = r.pos
  len : r'.rest.length ≤ r.rest.length
  parsed : r'.parsed = r.parsed

theorem Fr.refl (r : R) : Fr r r := ⟨rfl, rfl, Nat.le_refl _, rfl⟩
theorem Fr.trans {a b c : R} (h1 : Fr a b) (h2 : Fr b c) : Fr a c := ⟨h2.tags.trans h1.tags, h2.pos.trans h1.pos, Nat.le_trans h2.len h1.len, h2.parsed.trans h1.parsed⟩

theorem Fr.of_adv {r r' : R} (h : Adv r r') : Fr r r' := by
  rcases h with e | ⟨k, _, e⟩ <;> rw [e]
  · exact ⟨rfl, rfl, Nat.le_refl _, rfl⟩
  · exact ⟨rfl, rfl, by simp [R.adv], rfl⟩

theorem Fr.discard (r : R) (n : Int) : Fr r (discard r n).1 := Fr.of_adv (Adv.discard r n)

theorem Fr.fastRead (r : R) (n : Nat) : Fr r (fastRead r n).r := Fr.of_adv (Adv.fastRead r n)

theorem Fr.readTagValue (r : R) (t : Tag) : Fr r (readTagValue r t).r := by
  have := Fr.of_adv (Adv.readTagValue0 r t)
  rw [readTagValue_r]; exact ⟨this.tags, this.pos, this.len, this.parsed⟩

theorem discard_exact {F : Bytes} {r : R} (h : Coh F r) (k : Nat) (hF : r.po + k ≤ F.length) (hx : r.po + k ≤ r.exifLength) :
    (discard r (k : Int)).2 = none ∧ (discard r (k : Int)).1.po = r.po + k := by
  have hl := h.restLen
  have hs := h.small
  unfold Exif.discard
  by_cases h0 : (k : Int) = 0
  · rw [if_pos h0]; exact ⟨rfl, show r.po = r.po + k by omega⟩
  · rw [if_neg h0]
    dsimp only
    rw [if_neg (show ¬(r.exifLength : Int) < (k : Int) + r.po by omega), if_neg (show ¬(k : Int) < 0 by omega),
      if_neg (show ¬(k : Int) ≤ 0 by omega), if_pos (show (k : Int).toNat ≤ r.rest.length by omega), ite_self]
    exact ⟨rfl, by simp only [Int.toNat_natCast]; exact Nat.mod_eq_of_lt (by omega)⟩

theorem fastRead_exact {F : Bytes} {r : R} (h : Coh F r) (n : Nat) (hF : r.po + n ≤ F.length) (hx : r.po + n ≤ r.exifLength)
    (hlim : n ≤ readLimit r) :
    (fastRead r n).err = none ∧ (fastRead r n).buf = (F.drop r.po).take n ∧ (fastRead r n).r.po = r.po + n := by
  have hl := h.restLen
  have hs := h.small
  rcases fastRead_cases r n with ⟨he, _, hb, e⟩ | ⟨_, _, _, _, hwhy⟩
  · exact ⟨he, by rw [hb, h.rest], by rw [e]; exact Nat.mod_eq_of_lt (by omega)⟩
  · omega

/-- **One forward read is exact** (in words at `C03_forward_read_exact`); also, the ghost record of reads grows by
`(t, some F[t.off, t.off+t.size))`. -/
theorem readTagValue_exact {F : Bytes} {r : R} (h : Coh F r) (t : Tag) (hfw : r.po ≤ t.off) (hF : t.off + t.size ≤ F.length)
    (hx : t.off + t.size ≤ r.exifLength) (hlim : t.size ≤ readLimit r) :
    (readTagValue r t).err = none ∧ (readTagValue r t).buf = slice F t ∧ (readTagValue r t).r.po = t.off + t.size ∧
    (readTagValue r t).r.reads = r.reads ++ [(t, some (slice F t))] := by
  have key : (readTagValue0 r t).err = none ∧ (readTagValue0 r t).buf = slice F t ∧ (readTagValue0 r t).r.po = t.off + t.size := by
    -- the seek ends at t.off, the read from there is exact
    have h0 : Coh F { r with hazard := t.isEmbedded || r.hazard } := ⟨h.rest, h.le, h.small⟩
    have hd := discard_exact h0 (t.off - r.po) (show r.po + _ ≤ _ by omega) (show r.po + _ ≤ r.exifLength by omega)
    have hk := Keep.discard { r with hazard := t.isEmbedded || r.hazard } ((t.off - r.po : Nat) : Int)
    rw [show r.po + (t.off - r.po) = t.off by omega] at hd
    have := fastRead_exact (h0.discard _) t.size (by rw [hd.2]; exact hF) (by rw [hk.exl, hd.2]; exact hx)
      (by rw [readLimit_congr hk.buffered]; exact hlim)
    rw [hd.2] at this
    rw [readTagValue0_eq, show ((t.off : Int) - r.po) = ((t.off - r.po : Nat) : Int) by omega,
      show Exif.discard _ _ = (_, none) from Prod.ext rfl hd.1]
    exact this
  unfold readTagValue
  refine ⟨key.1, key.2.1, key.2.2, ?_⟩
  show (readTagValue0 r t).r.reads ++ [(t, if (readTagValue0 r t).err.isNone then some (readTagValue0 r t).buf else none)] = _
  rw [(Keep.readTagValue0 r t).reads, key.1, key.2.1]
  rfl

end Imeta.Exif
