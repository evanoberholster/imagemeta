/-
  ScanTiffHeader's loop computes `spec`: its two-byte step never skips a signature (`no_sig_at_one`).
-/
import Imeta.Model.Tiff
namespace Imeta.Tiff

theorem scan_succ (fuel : Nat) (b : Bytes) (d : Nat) : scan (fuel+1) b d =
    if b.length < headerLength then .err .noExif
    else if isSig b then .ok (mkHeader b d)
    else if adv1 b then scan fuel (b.drop 1) (d+1)
    else scan fuel (b.drop 2) (d+2) := by
  simp only [scan, lenLt, decide_eq_true_eq]

theorem spec_cons (x : UInt8) (t : Bytes) (d : Nat) : spec (x :: t) d =
    if (x :: t).length < headerLength then .err .noExif
    else if isSig (x :: t) then .ok (mkHeader (x :: t) d)
    else spec t (d+1) := by
  simp only [spec, lenLt, decide_eq_true_eq]

theorem iterations_succ (fuel : Nat) (b : Bytes) : iterations (fuel+1) b =
    if b.length < headerLength then 1
    else if isSig b then 1
    else if adv1 b then 1 + iterations fuel (b.drop 1)
    else 1 + iterations fuel (b.drop 2) := by
  simp only [iterations, lenLt, decide_eq_true_eq]

theorem spec_short (b : Bytes) (d : Nat) (h : b.length < headerLength) :
    spec b d = .err .noExif := by
  cases b with
  | nil => rfl
  | cons x t => rw [spec_cons, if_pos h]

theorem no_sig_at_one (x y : UInt8) (t : Bytes) (h : adv1 (x :: y :: t) = false) :
    isSig (y :: t) = false := by
  simp only [adv1, Bool.or_eq_false_iff, beq_eq_false_iff_ne, ne_eq] at h
  have hr : (y :: t).take 4 = y :: t.take 3 := rfl
  simp only [isSig, isBE, isLE, hr, sigBE, sigLE, Bool.or_eq_false_iff, beq_eq_false_iff_ne, ne_eq,
    List.cons.injEq, not_and]
  exact ⟨fun h' => absurd h' h.2, fun h' => absurd h' h.1⟩

/-- on a short or empty stream too -/
theorem spec_skip (b : Bytes) (d : Nat) (h : isSig b = false) : spec b d = spec (b.drop 1) (d + 1) := by
  cases b with
  | nil => rfl
  | cons x t =>
    rw [spec_cons, h, List.drop_succ_cons, List.drop_zero]
    split
    · exact (spec_short t _ (by simp only [List.length_cons] at *; omega)).symm
    · rfl

theorem spec_sig (b : Bytes) (d : Nat) (h32 : ¬ b.length < headerLength) (h : isSig b = true) : spec b d = .ok (mkHeader b d) := by
  cases b with
  | nil => exact absurd (by decide) h32
  | cons x t => rw [spec_cons, if_neg h32, if_pos h]

theorem adv1_false_drop (b : Bytes) (h : adv1 b = false) : isSig (b.drop 1) = false := by
  match b with
  | [] | [_] => rfl
  | x :: y :: t => exact no_sig_at_one x y t h

/-- the fuel: one iteration per byte, plus one for the final failing Peek -/
theorem scan_eq_spec : ∀ (fuel : Nat) (b : Bytes) (d : Nat), b.length < fuel → scan fuel b d = spec b d := by
  intro fuel
  induction fuel with
  | zero => intro b d h; omega
  | succ f ih =>
    intro b d hf
    rw [scan_succ]
    split
    · exact (spec_short b d ‹_›).symm
    · have h32 : 32 ≤ b.length := Nat.le_of_not_lt ‹_›
      split
      · exact (spec_sig b d ‹_› ‹_›).symm
      · have hs : isSig b = false := by simpa using ‹¬ isSig b = true›
        rw [spec_skip b d hs]
        split
        · exact ih _ _ (by simp only [List.length_drop]; omega)
        · -- the code steps over two bytes: no signature starts at the second
          rw [spec_skip _ _ (adv1_false_drop b (by simpa using ‹¬ adv1 b = true›)), List.drop_drop]
          exact ih _ _ (by simp only [List.length_drop]; omega)

theorem iterations_le (fuel : Nat) (b : Bytes) : iterations fuel b ≤ b.length + 1 := by
  induction fuel generalizing b with
  | zero => simp [iterations]
  | succ f ih =>
    rw [iterations_succ]
    split
    · omega
    · split
      · omega
      · split
        · have := ih (b.drop 1); simp only [List.length_drop] at this
          rename_i h _ _; simp only [headerLength] at h; omega
        · have := ih (b.drop 2); simp only [List.length_drop] at this
          rename_i h _ _; simp only [headerLength] at h; omega

end Imeta.Tiff
