/-
  C12 — TIFF header search reports the first TIFF signature at any offset, exactly.

  Model: Imeta.Model.Tiff (hand-written transcription of tiff.ScanTiffHeader, tied to /repo by the correspondence
  check `vh corr C12`).
-/
import Imeta.Lemmas.Tiff
namespace Imeta.Tiff

/-- A signature sits at index `i` of `b` with the 28 further bytes the property asks for. -/
def SigAt (b : Bytes) (i : Nat) : Prop := isSig (b.drop i) = true ∧ i + headerLength ≤ b.length

instance (b : Bytes) (i : Nat) : Decidable (SigAt b i) := by unfold SigAt; infer_instance

/-- The header the property demands for a signature at `i`: offset, order and the
32-bit first-directory offset stored after the signature, stream left at the header. -/
def headerAt (b : Bytes) (i : Nat) : Header := mkHeader (b.drop i) i

/-- The specification function finds the least index with a signature (offset counted from d), and reports 'no Exif'
only when no index carries a signature with 32 bytes available. -/
theorem spec_char (b : Bytes) (d : Nat) :
    (∃ i, SigAt b i ∧ (∀ j, j < i → isSig (b.drop j) = false) ∧ spec b d = .ok (mkHeader (b.drop i) (d + i)))
    ∨ ((∀ i, ¬ SigAt b i) ∧ spec b d = .err .noExif) := by
  induction b generalizing d with
  | nil => exact .inr ⟨fun i ⟨_, h2⟩ => by simp [headerLength] at h2, rfl⟩
  | cons x t ih =>
    rw [spec_cons]
    split
    · rename_i h32; exact .inr ⟨fun i ⟨_, h2⟩ => by omega, rfl⟩
    · split
      · rename_i h32 hs
        exact .inl ⟨0, ⟨by simpa using hs, by omega⟩, fun j hj => by omega, rfl⟩
      · rename_i h32 hs
        rcases ih (d + 1) with ⟨i, ⟨hs1, hs2⟩, hmin, heq⟩ | ⟨hnone, heq⟩
        · refine .inl ⟨i + 1, ⟨by simpa using hs1, by simp only [List.length_cons]; omega⟩, fun j hj => ?_, ?_⟩
          · cases j with
            | zero => simpa using hs
            | succ j => simpa using hmin j (by omega)
          · rw [heq]; simp only [List.drop_succ_cons]; congr 2; omega
        · refine .inr ⟨fun i ⟨h1, h2⟩ => ?_, heq⟩
          cases i with
          | zero => exact hs (by simpa using h1)
          | succ i => exact hnone i ⟨by simpa using h1, by simp only [List.length_cons] at h2; omega⟩

/-- **C12, main theorem.** For every byte string `b` (any prefix before the header, any
content), with fuel for one iteration per byte, the model of `ScanTiffHeader`
* returns the header of the *first* signature that is followed by 28 more bytes:
  offset (mod 2^32, the code's `uint32(discarded)`), byte order, first-IFD offset, and leaves
  the stream at that header (`restLen = len - i`);
* returns `ErrNoExif` exactly when there is no such signature;
* never panics and never runs out of fuel. -/
theorem C12_scan_first_signature (b : Bytes) (fuel : Nat) (hf : b.length < fuel) :
    (∃ i, SigAt b i ∧ (∀ j, j < i → isSig (b.drop j) = false) ∧ scan fuel b 0 = .ok (headerAt b i))
    ∨ ((∀ i, ¬ SigAt b i) ∧ scan fuel b 0 = .err .noExif) := by
  rw [scan_eq_spec fuel b 0 hf]
  simpa [headerAt] using spec_char b 0

/-- The fields of the reported header are those stored in the file at the reported place. -/
theorem C12_header_fields (b : Bytes) (i : Nat) (h : SigAt b i) (hi : i < 2^32) :
    (headerAt b i).offset = i ∧
    (headerAt b i).restLen = b.length - i ∧
    (headerAt b i).order = binaryOrder (b.drop i) ∧
    (headerAt b i).order ≠ .unknown ∧
    (headerAt b i).firstIfd = (headerAt b i).order.uint ((b.drop (i+4)).take 4) := by
  refine ⟨by simp [headerAt, mkHeader, Nat.mod_eq_of_lt hi], by simp [headerAt, mkHeader], rfl, ?_, ?_⟩
  · have := h.1
    simp only [headerAt, mkHeader, binaryOrder]
    simp only [isSig, Bool.or_eq_true] at this
    split
    · simp
    · split
      · simp
      · rename_i h1 h2; rcases this with h | h <;> simp_all
  · simp [headerAt, mkHeader, List.drop_drop]

/-- No panic, no fuel exhaustion, on any input (feeds C01/C02). -/
theorem C12_no_panic (b : Bytes) (fuel : Nat) (hf : b.length < fuel) :
    (scan fuel b 0).isPanic = false ∧ (scan fuel b 0).isFuel = false := by
  rcases C12_scan_first_signature b fuel hf with ⟨i, _, _, h⟩ | ⟨_, h⟩ <;> simp [h, Outcome.isPanic, Outcome.isFuel]

/-- Non-vacuity: a concrete stream with junk (including a bare `II`, a lone `M`) before a
big-endian header satisfies the hypotheses, and the answer is index 5. -/
def exampleStream : Bytes :=
  [0x49, 0x49, 0x4d, 0x00, 0x2a] ++ [0x4d, 0x4d, 0x00, 0x2a, 0x00, 0x00, 0x00, 0x08] ++ List.replicate 24 0

example : scan 100 exampleStream 0 =
    .ok { offset := 5, order := .big, firstIfd := 8, restLen := 32 } := by decide

example : SigAt exampleStream 5 := by decide

end Imeta.Tiff
