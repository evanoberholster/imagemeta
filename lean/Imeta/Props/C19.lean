/-
  C19 — A perceptual hash is its defined function of the pixels; wrong sizes rejected.

  Property theorems. Model: Imeta.Model.Hash (hand-written, tied to /repo by `vh run C19`).
  Coefficients are elements of an arbitrary type with a decidable strict order: nothing below
  depends on floating-point facts.
-/
import Imeta.Lemmas.Hash
import Imeta.Lemmas.QSelect
namespace Imeta.Hash

/-- **Only the required size is accepted; nil is rejected** (model of the repaired guard). -/
theorem C19_accepts_iff (s : Nat) (isNil : Bool) (w h : Int) :
    accepts s isNil w h = true ↔ (isNil = false ∧ w = s ∧ h = s) := by
  simp [accepts, and_assoc]

/-- On the pinned tree the guard was `X != Y && X != s`: these four instances are the recorded defects
(32×32, 64×32 and nil accepted by the 64-bit hash, 128×128 too). Replayed on the implementation by `vh run C19`. -/
theorem C19_witness_pinned_guard :
    acceptsPinned 64 false 32 32 = true ∧ acceptsPinned 64 false 64 32 = true ∧
    acceptsPinned 64 true 0 0 = true ∧ acceptsPinned 64 false 128 128 = true := by decide

/-- **Full overwrite**: the conversion writes slots `0, 1, …, s²-1`, each exactly once, in order — no slot of the
pooled buffer keeps a value from an earlier image (C04 for the hash path). -/
theorem C19_full_overwrite (s : Nat) (mx my : Int) :
    (grayPlan s mx my).map (·.1) = List.range (s * s) := by
  unfold grayPlan
  rw [List.map_flatMap]
  simp only [List.map_map, Function.comp_def]
  exact range_flatMap_rows s s

/-- **Origin invariance**: relative to the rectangle's corner, the pixel read for each slot does not depend on
where the rectangle starts; a sub-image hashes like the same pixels at the origin. -/
theorem C19_origin_invariant (s : Nat) (mx my : Int) :
    (grayPlan s mx my).map (fun p => (p.1, p.2.1 - mx, p.2.2 - my)) = grayPlan s 0 0 := by
  unfold grayPlan
  rw [List.map_flatMap]
  simp only [List.map_map, Function.comp_def, Int.zero_add]
  have e : ∀ (a b : Int), a + b - a = b := by intro a b; omega
  simp only [e]

/-- slot `i*s+j` holds the pixel `(Min.X+j, Min.Y+i)`: row-major, x fastest -/
theorem C19_plan_entry (s : Nat) (mx my : Int) (i j : Nat) (hi : i < s) (hj : j < s) :
    (grayPlan s mx my)[i * s + j]? = some (i * s + j, mx + j, my + i) :=
  flatMap_rows_get s (fun i j => (i * s + j, mx + (j : Int), my + (i : Int))) s i j hi hj

/-- The pinned conversions ignored `Rect.Min` (recorded defect, repaired): for a 2×2 image at (5,5) the
plan reads (0,0)… instead of (5,5)… -/
theorem C19_witness_pinned_origin : grayPlanPinned 2 5 5 ≠ grayPlan 2 5 5 := by decide

section
variable {α : Type} [LT α] [DecidableLT α]

/-- the hash fits its width: no bit at or above `len` -/
theorem C19_bits_width (T : α) (c : List α) : hashBits T c < 2 ^ c.length := by
  induction c with
  | nil => simp [hashBits]
  | cons x t ih =>
    simp only [hashBits, List.length_cons]
    apply Nat.or_lt_two_pow
    · split
      · rw [Nat.one_shiftLeft]; exact Nat.pow_lt_pow_right (by decide) (by omega)
      · exact Nat.two_pow_pos _
    · exact Nat.lt_trans ih (Nat.pow_lt_pow_right (by decide) (by omega))

/-- **Bit `len-1-i` of the hash is set iff coefficient `i` is above the threshold** — for every coefficient
list and every threshold. (64-bit hash: `len = 64`, so coefficient 0, the DC term, is the most significant bit.) -/
theorem C19_bits_spec (T : α) (c : List α) (i : Nat) (h : i < c.length) :
    (hashBits T c).testBit (c.length - 1 - i) = decide (T < c[i]) := by
  induction c generalizing i with
  | nil => simp at h
  | cons x t ih =>
    simp only [hashBits, List.length_cons, Nat.testBit_or]
    cases i with
    | zero =>
      have h2 : (hashBits T t).testBit t.length = false := Nat.testBit_lt_two_pow (C19_bits_width T t)
      simp only [Nat.add_sub_cancel, Nat.sub_zero, h2, Bool.or_false, List.getElem_cons_zero]
      split
      · rename_i hx; rw [Nat.one_shiftLeft, Nat.testBit_two_pow_self]; simp [hx]
      · rename_i hx; simp [hx]
    | succ k =>
      have hk : k < t.length := by simpa using h
      have e : t.length + 1 - 1 - (k + 1) = t.length - 1 - k := by omega
      rw [e, List.getElem_cons_succ, ← ih k hk]
      split
      · rw [Nat.one_shiftLeft, Nat.testBit_two_pow]; simp; intro hc; omega
      · simp

/-- the recursive definition is the Go loop (`phash |= 1 << (len-idx-1)` for `idx` counting up) -/
theorem C19_bits_loop (T : α) (c : List α) : hashBitsLoop T c = hashBits T c := by
  unfold hashBitsLoop
  have := hashBitsLoop_aux T c.length c 0 0 (by simp)
  simpa using this

/-- 256-bit hash: word `w`, bit `63 - r` is coefficient `64w + r` -/
theorem C19_bits_spec_256 (T : α) (c : List α) (hc : c.length = 256) (w r : Nat) (hw : w < 4) (hr : r < 64) :
    ∃ word, (hashWords T c)[w]? = some word ∧ word.testBit (63 - r) = decide (T < c[64 * w + r]'(by omega)) := by
  have key : ∀ (d : Nat) (hd : d + 64 ≤ 256),
      (hashBits T ((c.drop d).take 64)).testBit (63 - r) = decide (T < c[d + r]'(by omega)) := by
    intro d hd
    have hl : ((c.drop d).take 64).length = 64 := by simp [hc]; omega
    have h1 := C19_bits_spec T ((c.drop d).take 64) r (by omega)
    have e : ((c.drop d).take 64).length - 1 - r = 63 - r := by omega
    rw [e] at h1
    rw [h1]
    simp [List.getElem_take, List.getElem_drop]
  have hcases : w = 0 ∨ w = 1 ∨ w = 2 ∨ w = 3 := by omega
  rcases hcases with h | h | h | h <;> subst h
  · refine ⟨_, rfl, ?_⟩; have := key 0 (by omega); simpa using this
  · refine ⟨_, rfl, ?_⟩; exact key 64 (by omega)
  · refine ⟨_, rfl, ?_⟩; exact key 128 (by omega)
  · refine ⟨_, rfl, ?_⟩; exact key 192 (by omega)
end

section
variable {α : Type} [LinearOrder' α]

/-- **The set bits form an upper set**: if coefficient `i` is set and `c_j ≥ c_i` then `j` is set. -/
theorem C19_upper_set (T : α) (c : List α) (i j : Nat) (hi : i < c.length) (hj : j < c.length)
    (hset : (hashBits T c).testBit (c.length - 1 - i) = true) (hle : LinearOrder'.le c[i] c[j]) :
    (hashBits T c).testBit (c.length - 1 - j) = true := by
  rw [C19_bits_spec T c i hi] at hset
  rw [C19_bits_spec T c j hj]
  simp only [decide_eq_true_eq] at *
  exact LinearOrder'.lt_of_lt_of_le hset hle

/-- **One threshold at or just below the median**: whenever the threshold `T` lies between the lower median `lo`
and the upper median `hi` (as `lo/2 + hi/2` does), no coefficient above `hi` is cleared, none below `lo` is set,
and if the threshold is strictly below `hi` every coefficient `≥ hi` (the whole upper half) is set. -/
theorem C19_threshold_separates (T lo hi : α) (c : List α) (i : Nat) (h : i < c.length)
    (hlo : LinearOrder'.le lo T) (hhi : LinearOrder'.le T hi) :
    (hi < c[i] → (hashBits T c).testBit (c.length - 1 - i) = true) ∧
    (c[i] < lo → (hashBits T c).testBit (c.length - 1 - i) = false) ∧
    (T < hi → LinearOrder'.le hi c[i] → (hashBits T c).testBit (c.length - 1 - i) = true) ∧
    (c[i] = T → (hashBits T c).testBit (c.length - 1 - i) = false) := by
  rw [C19_bits_spec T c i h]
  refine ⟨?_, ?_, ?_, ?_⟩
  · intro hc; simpa using LinearOrder'.lt_of_le_of_lt hhi hc
  · intro hc
    simp only [decide_eq_false_iff_not]
    intro hT
    exact LinearOrder'.lt_irrefl _ (LinearOrder'.lt_of_lt_of_le (LinearOrder'.lt_trans hT hc) hlo)
  · intro h1 h2; simpa using LinearOrder'.lt_of_lt_of_le h1 h2
  · intro he; simp only [decide_eq_false_iff_not]; rw [he]; exact LinearOrder'.lt_irrefl _
end

section
variable {α : Type} [LT α] [DecidableLT α]

/-- **quickSelectMedian finds the upper median** (Lomuto quickselect as written, iterative, in place; model
`Hash.median`, tied to the code by the `hash.median` correspondence).  For every non-empty coefficient list c over a strict
weak order (`<` on floats without NaN): the model does not index out of range and does not use up its 2n+2 rounds; there
is an element y of c with at most n/2 elements of c smaller and at most n-1-n/2 larger — the upper median — such that
for odd n the threshold is y, and for even n (64 and 256 coefficients) it is `x/2 + y/2` for an element x of c that
is not larger than y.  With `C19_threshold_separates` (take hi = y): no coefficient above the upper median is ever cleared. -/
theorem C19_median_is_upper_median (sw : StrictWeak α) (half : α → α) (add : α → α → α) (c : List α) (hc : c ≠ []) :
    ∃ y, y ∈ c ∧ c.countP (fun x => decide (x < y)) ≤ c.length / 2 ∧ c.countP (fun x => decide (y < x)) ≤ c.length - 1 - c.length / 2 ∧
      ((c.length % 2 = 1 ∨ c.length = 1) → median half add c = .ok y) ∧
      (c.length % 2 = 0 → ∃ x, x ∈ c ∧ ¬ y < x ∧ median half add c = .ok (add (half x) (half y))) := by
  have hn : 0 < c.length := List.length_pos_iff.mpr hc
  have hsize : c.toArray.size = c.length := by simp
  -- the loop invariant at entry: the range is the whole array, so there is nothing left of it or right of it
  have g0 : G (c.length / 2) 0 (c.length - 1) c.toArray := by
    refine ⟨Nat.zero_le _, by omega, by omega, ?_, ?_⟩
    · intro i j x y hi; omega
    · intro i j x y hi hj hx hy
      have : c.toArray[j]? = none := Array.getElem?_eq_none (by omega)
      rw [this] at hy; cases hy
  -- the selection loop for k = n/2 with its 2n+2 rounds: a permutation a' of c, partitioned around position n/2
  obtain ⟨a', he, hperm, gk⟩ := qsel_spec sw (c.length / 2) (2 * c.length + 2) 0 (c.length - 1) c.toArray g0 (Or.inl (by omega))
  have hs' : a'.size = c.length := by rw [hperm.size_eq]; simp
  have hk : c.length / 2 < a'.size := by omega
  have hyk : a'[c.length / 2]? = some a'[c.length / 2] := Array.getElem?_eq_getElem hk
  have hcnt := counts_of_G sw (c.length / 2) a' _ gk hyk
  -- y is a'[n/2]; its two counts, taken on a', are the same on c
  have hpl : a'.toList.Perm c := by
    have := Array.perm_iff_toList_perm.mp hperm
    simpa using this
  have hmem : ∀ z, z ∈ a'.toList → z ∈ c := fun z hz => hpl.subset hz
  refine ⟨a'[c.length / 2], hmem _ (by simp), ?_, ?_, ?_, ?_⟩
  · rw [← hpl.countP_eq]; exact hcnt.1
  · rw [← hpl.countP_eq]; exact Nat.le_trans hcnt.2 (by rw [hs']; exact Nat.le_refl _)
  · -- odd n: the threshold is a'[n/2] (for n = 1 `median` skips the loop and reads c[0])
    intro hodd
    unfold median
    rw [if_neg (by omega)]
    by_cases h1 : c.length = 1
    · rw [hsize, if_pos h1]
      -- a single element: quickselect on [0,0] returns the array unchanged
      have : qselLoop (c.length / 2) (2 * c.length + 2) 0 (c.length - 1) c.toArray = .ok c.toArray := by
        rw [h1]; unfold qselLoop; simp
      rw [this] at he; simp only [Outcome.ok.injEq] at he; subst he
      rw [getA_ok _ _ (by omega)]
    · rw [hsize, if_neg h1, he]
      simp only [Outcome.bind]
      rw [if_neg (by omega), getA_ok _ _ hk]
  · -- even n: x is a'[n/2 - 1], which the partition leaves not larger than y
    intro heven
    have hk1 : c.length / 2 - 1 < a'.size := by omega
    refine ⟨a'[c.length / 2 - 1], hmem _ (by simp), ?_, ?_⟩
    · exact gk.left (c.length / 2 - 1) (c.length / 2) _ _ (by omega) (Nat.le_refl _) (Array.getElem?_eq_getElem hk1) hyk
    · unfold median
      dsimp only
      rw [hsize, if_neg (by omega), if_neg (by omega), he]
      simp only [Outcome.bind]
      rw [if_pos heven, getA_ok _ _ hk1]
      rw [getA_ok _ _ hk]

/-- the selection loop itself, for any k: permutation of the input, nothing left of k larger, nothing right of k smaller;
never a panic, never out of fuel (at most 2·(hi-low)+1 rounds: a round that does not shrink the range leaves the strict
maximum at its upper end, and the next round then shrinks it) -/
theorem C19_quickselect (sw : StrictWeak α) (k low hi fuel : Nat) (a : Array α) (g : G k low hi a) (hf : 2 * (hi - low) + 1 < fuel) :
    ∃ a', qselLoop k fuel low hi a = .ok a' ∧ a'.Perm a ∧ G k k k a' :=
  qsel_spec sw k fuel low hi a g (Or.inl hf)
end

/-- the integers are a strict weak order (non-vacuity of `StrictWeak`), and the model run on a concrete list -/
theorem strictWeak_int : StrictWeak Int := ⟨fun a b h => by omega, fun a b c h1 h2 => by omega, fun a b c h1 h2 => by omega⟩
example : median (· / 2) (· + ·) ([5, 1, 4, 2, 3] : List Int) = .ok 3 := by decide
example : median (· / 2) (· + ·) ([8, 1, 6, 2] : List Int) = .ok (1 + 3) := by decide

/-- **Distances are Hamming distances and form a metric on 64-bit hashes**; the `uint8` conversion never truncates. -/
theorem C19_hamming_metric (a b c : Nat) :
    distance64 a a = 0 ∧ distance64 a b = distance64 b a ∧
    distance64 a b = popcount64 (a ^^^ b) ∧ popcount64 (a ^^^ b) ≤ 64 ∧
    distance64 a c ≤ distance64 a b + distance64 b c := by
  refine ⟨?_, ?_, ?_, ?_, ?_⟩
  · simp [distance64, popcount64]
  · simp [distance64, Nat.xor_comm]
  · exact distance64_eq a b
  · exact popcount64_le _
  · rw [distance64_eq, distance64_eq, distance64_eq]; exact popcount_triangle a b c

/-- the distance is zero only for equal hashes (64-bit values) -/
theorem C19_hamming_zero_iff (a b : Nat) (ha : a < 2 ^ 64) (hb : b < 2 ^ 64) :
    distance64 a b = 0 ↔ a = b := by
  rw [distance64_eq]
  constructor
  · intro h
    apply Nat.eq_of_testBit_eq
    intro i
    by_cases hi : i < 64
    · unfold popcount64 at h
      rw [List.countP_eq_zero] at h
      cases ha' : a.testBit i <;> cases hb' : b.testBit i <;> simp_all
    · have h1 : a < 2 ^ i := Nat.lt_of_lt_of_le ha (Nat.pow_le_pow_right (by decide) (by omega))
      have h2 : b < 2 ^ i := Nat.lt_of_lt_of_le hb (Nat.pow_le_pow_right (by decide) (by omega))
      rw [Nat.testBit_lt_two_pow h1, Nat.testBit_lt_two_pow h2]
  · intro h; subst h; simp [popcount64]

/-- 256-bit hashes: the distance is the sum over the four words, hence symmetric, zero on equal hashes, and
satisfies the triangle inequality -/
theorem C19_hamming_256 (a b c : List Nat) (hab : a.length = b.length) (hbc : b.length = c.length) :
    distance256 a a = 0 ∧ distance256 a b = distance256 b a ∧
    distance256 a c ≤ distance256 a b + distance256 b c := by
  refine ⟨distance256_self a, distance256_comm a b, distance256_triangle a b c hab hbc⟩

/-- a constant image: 63 coefficients equal the median (0), only the DC bit is set -/
example : hashBits (0 : Int) ((100 : Int) :: List.replicate 63 0) = 2 ^ 63 := by decide
example : distance64 0b1011 0b0110 = 3 := by decide
example : accepts 64 false 64 64 = true := by decide

end Imeta.Hash
