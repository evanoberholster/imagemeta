/-
  C13 — array properties report their items in document order (Lemmas/XmpTree.lean).
-/
import Imeta.Props.C13c
namespace Imeta.Props.C13
open Imeta Imeta.Xmp

/-- **Array items in document order.**  Inside rdf:Seq / rdf:Bag / rdf:Alt (`parent`, below the property `parent.parent`) the
items `<rdf:li>v</rdf:li>` — any element name other than the array's own, each behind any run of bytes other than '<' up to
1410 bytes, values without '<' that do not start with white space and are shorter than 1536 bytes — are handed to the
parser layer as exactly one token per item: the array's property, exactly the value, in document order, repeated values
included; exactly the items and the array's stop tag are consumed and the walk ends without error. -/
theorem C13_array_items_in_document_order (parent : Tag) (wsE : Bytes) (n0 : UInt8) (ns name R : Bytes)
    (hwsE : ∀ x ∈ wsE, (x == 60) = false) (hwinE : wsE.length + 128 ≤ W)
    (hnsE : ∀ x ∈ n0 :: ns, (x == 58) = false) (hnameE : ∀ x ∈ name, isTerm x = false) (hfitE : ns.length + name.length + 5 ≤ 128)
    (hself : identify (n0 :: ns) name = parent.self) (l : List (Bytes × Elem)) (f : Nat) (st : St)
    (hr : st.rest = serE l ++ (wsE ++ 60 :: 47 :: ((n0 :: ns) ++ 58 :: (name ++ 62 :: R))))
    (hok : ∀ p ∈ l, (∀ x ∈ p.1, (x == 60) = false) ∧ p.1.length + 128 ≤ W ∧ p.2.Item ∧ (p.2.prop == parent.self) = false) :
    readSeqTags parent (f + 1 + 2 * l.length) st = (.ok (), { rest := R, a := false, toks := pushI parent l st.toks }) := by
  rw [← serIA_lift] at hr
  rw [← pushIA_lift, ← lift_length l]
  exact readSeqTags_items_exact parent wsE n0 ns name R hwsE hwinE hnsE hnameE hfitE hself (lift l) f st hr (ItemsOK_lift _ l hok)

/-- **An array property, whole**: `<P> <A> items </A> </P>` with A one of rdf:Seq / rdf:Bag / rdf:Alt, any white space
between the tags.  One round of readTag reports exactly the items (property P, parent A, exactly the values, document
order), consumes exactly the element, and goes on behind it. -/
theorem C13_array_property_exact (parent : Tag) (st : St) (P A : Name) (ws0 ws1 wsE ws2 R : Bytes) (l : List (Bytes × Elem)) (f : Nat)
    (hr : st.rest = ws0 ++ P.openT (ws1 ++ A.openT (serE l ++ (wsE ++ A.closeT (ws2 ++ P.closeT R)))))
    (hP : P.OK) (hA : A.OK)
    (hws0 : ∀ x ∈ ws0, (x == 60) = false) (hwin0 : ws0.length + 128 ≤ W)
    (hws1 : ∀ x ∈ ws1, isWs x = true) (hwin1 : ws1.length < 512)
    (hwsE : ∀ x ∈ wsE, (x == 60) = false) (hwinE : wsE.length + 128 ≤ W)
    (hws2 : ∀ x ∈ ws2, (x == 60) = false) (hwin2 : ws2.length + 128 ≤ W)
    (hPseq : (P.prop == rdfSeq || P.prop == rdfAlt || P.prop == rdfBag) = false) (hProot : (P.prop == rootProp) = false)
    (hAseq : (A.prop == rdfSeq || A.prop == rdfAlt || A.prop == rdfBag) = true)
    (hok : ∀ p ∈ l, (∀ x ∈ p.1, (x == 60) = false) ∧ p.1.length + 128 ≤ W ∧ p.2.Item ∧ (p.2.prop == A.prop) = false) :
    readTag (f + 3 + 2 * l.length) parent st =
      readTag (f + 2 + 2 * l.length) parent
        { rest := R, a := false, toks := pushI { t := .start, parent := P.prop, self := A.prop } l st.toks } := by
  rw [← serIA_lift] at hr
  rw [← pushIA_lift, show f + 3 + 2 * l.length = f + 2 + 2 * l.length + 1 by omega]
  exact readTag_array parent P A ws1 wsE ws2 (lift l) ⟨hP, hPseq, hProot⟩ hA hAseq hws1 hwin1 ⟨hwsE, hwinE⟩ ⟨hws2, hwin2⟩ (ItemsOK_lift _ l hok)
    _ st ws0 R (by rw [lift_length]; omega) hr ⟨hws0, hwin0⟩

/-! non-vacuity: `<dc:subject>\n<rdf:Bag><rdf:li>sea</rdf:li> <rdf:li>sky</rdf:li><rdf:li>sea</rdf:li>\n</rdf:Bag></dc:subject>` -/
def nSubject : Name := { n0 := 100, ns := [99], name := [115, 117, 98, 106, 101, 99, 116] }
def nBag : Name := { n0 := 114, ns := [100, 102], name := [66, 97, 103] }
def liSea : Elem := { n0 := 114, ns := [100, 102], name := [108, 105], c := 115, v' := [101, 97] }
def liSky : Elem := { n0 := 114, ns := [100, 102], name := [108, 105], c := 115, v' := [107, 121] }
example : nSubject.OK ∧ nBag.OK := by constructor <;> constructor <;> decide +kernel
example : liSea.Item ∧ liSky.Item := by constructor <;> constructor <;> decide +kernel
example : (nSubject.prop == rdfSeq || nSubject.prop == rdfAlt || nSubject.prop == rdfBag) = false ∧ (nSubject.prop == rootProp) = false ∧
    (nBag.prop == rdfSeq || nBag.prop == rdfAlt || nBag.prop == rdfBag) = true ∧ (liSea.prop == nBag.prop) = false := by decide +kernel
example : [] ++ nSubject.openT ([10] ++ nBag.openT (serE [([], liSea), ([32], liSky), ([], liSea)] ++ ([10] ++ nBag.closeT ([] ++ nSubject.closeT [])))) =
    ("<dc:subject>\n<rdf:Bag><rdf:li>sea</rdf:li> <rdf:li>sky</rdf:li><rdf:li>sea</rdf:li>\n</rdf:Bag></dc:subject>").toUTF8.toList := by rewrite [utf8_toList]; decide +kernel
/-- the model run on those bytes: three tokens, document order, the repeated item included -/
example : ((readTag 12 descTag { rest := ("<dc:subject>\n<rdf:Bag><rdf:li>sea</rdf:li> <rdf:li>sky</rdf:li><rdf:li>sea</rdf:li>\n</rdf:Bag></dc:subject></rdf:Description>").toUTF8.toList, a := false, toks := [] }).2.toks.reverse.map (fun t => (t.self == nSubject.prop, t.val))) =
    [(true, [115, 101, 97]), (true, [115, 107, 121]), (true, [115, 101, 97])] := by rewrite [utf8_toList]; decide +kernel

end Imeta.Props.C13
