/-
  C13 — XMP properties are extracted exactly, in attribute or element form alike.

  The model (Imeta/Model/Xmp.lean) is tied to xmp/reader.go by the correspondence on generated packets and their
  mutations (harness/cmd/vh/c13.go).  The two value readers return exactly the bytes between the delimiters, for every
  value, whatever follows, in whichever look-ahead window the closing delimiter falls: `attr_value_exact`,
  `attr_value_retry`, `attr_value_window_exceeded` (Lemmas/XmpAttr.lean) and `elem_value_exact` (Lemmas/XmpElem.lean).
  Here: totality, and the model run on a concrete packet.
-/
import Imeta.Lemmas.XmpTotal
import Imeta.Lemmas.XmpElem
import Imeta.Lemmas.Utf8
namespace Imeta.Props.C13
open Imeta Imeta.Xmp

/-- the repaired case itself: a value that starts with '>' is returned whole -/
example (f : Nat) (st : St) (t' : Bytes)
    (hbuf : peek 512 st = (.ok ([62, 67, 97] ++ [60] ++ t'), st)) :
    readTagValue (f + 1) 512 0 0 st = (.ok [62, 67, 97], { st with rest := st.rest.drop 3 }) :=
  elem_value_exact f 512 st [62, 67, 97] t' 62 [67, 97] rfl (by decide) (by decide) hbuf

/-- the reader model is total: ParseXmp ends for every input without exhausting its fuel (Lemmas/XmpTotal.lean) -/
theorem C13_parseXmp_total (b : Bytes) : ¬ Xmp.isFuel (parseXmp b).1 := parseXmp_total b

/-- <x:xmpmeta xmlns:x="adobe:ns:meta/"><rdf:RDF><rdf:Description tiff:Make='Canon' tiff:Model="EOS 6D"><tiff:Orientation>6</tiff:Orientation></rdf:Description></rdf:RDF></x:xmpmeta> -/
def samplePacket : Bytes := [60, 120, 58, 120, 109, 112, 109, 101, 116, 97, 32, 120, 109, 108, 110, 115, 58, 120, 61, 34, 97, 100, 111, 98, 101, 58, 110, 115, 58, 109, 101, 116, 97, 47, 34, 62, 60, 114, 100, 102, 58, 82, 68, 70, 62, 60, 114, 100, 102, 58, 68, 101, 115, 99, 114, 105, 112, 116, 105, 111, 110, 32, 116, 105, 102, 102, 58, 77, 97, 107, 101, 61, 39, 67, 97, 110, 111, 110, 39, 32, 116, 105, 102, 102, 58, 77, 111, 100, 101, 108, 61, 34, 69, 79, 83, 32, 54, 68, 34, 62, 60, 116, 105, 102, 102, 58, 79, 114, 105, 101, 110, 116, 97, 116, 105, 111, 110, 62, 54, 60, 47, 116, 105, 102, 102, 58, 79, 114, 105, 101, 110, 116, 97, 116, 105, 111, 110, 62, 60, 47, 114, 100, 102, 58, 68, 101, 115, 99, 114, 105, 112, 116, 105, 111, 110, 62, 60, 47, 114, 100, 102, 58, 82, 68, 70, 62, 60, 47, 120, 58, 120, 109, 112, 109, 101, 116, 97, 62]

/-- the values of the recognised properties of the sample, in document order: Canon, EOS 6D, 6 (attribute with single
quotes, attribute with double quotes, element) -/
example : (match (parseXmp samplePacket).1 with | .ok _ => true | .error _ => false) = true ∧ (parseXmp samplePacket).2.map (·.val) =
    [[67, 97, 110, 111, 110], [69, 79, 83, 32, 54, 68], [54]] := by
  decide +kernel

end Imeta.Props.C13
