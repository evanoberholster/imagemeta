/-
  C13 — element form, names and values, for a whole list of simple elements, and attribute form = element form
  (Lemmas/XmpElem.lean, Lemmas/XmpTree.lean).
-/
import Imeta.Lemmas.XmpTree
import Imeta.Props.C13b
namespace Imeta.Props.C13
open Imeta Imeta.Xmp

/-- **A start tag is read exactly, behind any white space.**  `<ns:name>` behind a run `ws` of any bytes other than '<'
(white space between elements; any length up to W − 128 = 1410 bytes, i.e. across every 128-byte step of the look-ahead):
the tag is the start tag of `identify ns name`, the reader has consumed exactly the run and the tag, no attribute is
pending. -/
theorem C13_start_tag_exact (parent : Tag) (st : St) (ws : Bytes) (n0 : UInt8) (ns name R : Bytes)
    (hr : st.rest = ws ++ 60 :: ((n0 :: ns) ++ 58 :: (name ++ 62 :: R)))
    (hws : ∀ x ∈ ws, (x == 60) = false) (hwin : ws.length + 128 ≤ W)
    (h0 : n0 ≠ 47 ∧ n0 ≠ 63) (hns : ∀ x ∈ n0 :: ns, (x == 58) = false) (hname : ∀ x ∈ name, isTerm x = false)
    (hfit : ns.length + name.length + 4 ≤ 128) (h4 : 4 < st.rest.length) :
    readTagHeader parent st = (.ok { t := .start, parent := parent.self, self := identify (n0 :: ns) name }, { st with a := false, rest := R }) :=
  readTagHeader_start_exact parent st ws n0 ns name R hr hws hwin h0 hns hname hfit h4

/-- the stop tag `</ns:name>` likewise -/
theorem C13_stop_tag_exact (parent : Tag) (st : St) (ws : Bytes) (n0 : UInt8) (ns name R : Bytes)
    (hr : st.rest = ws ++ 60 :: 47 :: ((n0 :: ns) ++ 58 :: (name ++ 62 :: R)))
    (hws : ∀ x ∈ ws, (x == 60) = false) (hwin : ws.length + 128 ≤ W)
    (hns : ∀ x ∈ n0 :: ns, (x == 58) = false) (hname : ∀ x ∈ name, isTerm x = false)
    (hfit : ns.length + name.length + 5 ≤ 128) :
    readTagHeader parent st = (.ok { t := .stop, parent := parent.self, self := identify (n0 :: ns) name }, { st with a := false, rest := R }) :=
  readTagHeader_stop_exact parent st ws n0 ns name R hr hws hwin hns hname hfit

/-- **A whole list of simple elements is reported exactly.**  The reader stands inside an element (`parent`, e.g.
rdf:Description) with no attribute pending; the stream holds the elements `<ns:name>v</ns:name>`, each behind any run of
bytes other than '<' (white space of any kind and any length up to 1410 bytes), then `R`.  Each element satisfies `Elem.OK`
(prefix without ':', not starting with '/' or '?'; local name without '>', '/' or white space; tag within the 128-byte
look-ahead; value without '<', not starting with white space, shorter than 1536 bytes (any of the three look-ahead windows); the property is neither
an array nor the root).  Then the rounds of readTag over the list hand the parser layer exactly one token per element —
kind element, parent `parent`, property `identify ns name`, value v — in document order, consume exactly the elements, and
go on behind the last one (`R`) exactly as they would there.  -/
theorem C13_element_list_exact (parent : Tag) (R : Bytes) (l : List (Bytes × Elem)) (f : Nat) (st : St)
    (ha : st.a = false) (hr : st.rest = serE l ++ R)
    (hok : ∀ p ∈ l, (∀ x ∈ p.1, (x == 60) = false) ∧ p.1.length + 128 ≤ W ∧ p.2.OK) :
    readTag (f + 1 + l.length) parent st = readTag (f + 1) parent { rest := R, a := false, toks := pushE parent.self l st.toks } :=
  (elements_walk parent l hok).run (f + 1) R st (by omega) ha hr

/-- **Attribute form = element form.**  For the same names and values, the tokens of an attribute list (C13_attribute_list_exact)
and of an element list (C13_element_list_exact) below the same tag agree in parent, property and value, in the same order:
the value parsers see the same thing whichever form the writer chose. -/
theorem C13_attribute_element_same_tokens (P : Prop2) (l : List (Bytes × Bytes × Attr × UInt8 × Bytes))
    (hv : ∀ p ∈ l, p.2.2.1.v = p.2.2.2.1 :: p.2.2.2.2) :
    (pushAll P (l.map fun p => (p.1, p.2.2.1)) []).map Tok.key =
    (pushE P (l.map fun p => (p.2.1, p.2.2.1.toElem p.2.2.2.1 p.2.2.2.2)) []).map Tok.key :=
  attr_elem_same_tokens P l [] [] hv rfl

/-! non-vacuity: `<tiff:Make>Canon</tiff:Make>\n <tiff:Model>EOS</tiff:Model></rdf:Description>` below rdf:Description -/
def eMake : Elem := { n0 := 116, ns := [105, 102, 102], name := [77, 97, 107, 101], c := 67, v' := [97, 110, 111, 110] }
def eModel : Elem := { n0 := 116, ns := [105, 102, 102], name := [77, 111, 100, 101, 108], c := 69, v' := [79, 83] }
example : eMake.OK ∧ eModel.OK := by constructor <;> constructor <;> decide +kernel
example : serE [([], eMake), ([10, 32], eModel)] ++ ("</rdf:Description>").toUTF8.toList =
    ("<tiff:Make>Canon</tiff:Make>\n <tiff:Model>EOS</tiff:Model></rdf:Description>").toUTF8.toList := by rewrite [utf8_toList, utf8_toList]; decide +kernel
def descTag : Tag := { t := .start, self := identify (s "rdf") (s "Description") }
example : ((readTag 4 descTag { rest := ("<tiff:Make>Canon</tiff:Make>\n <tiff:Model>EOS</tiff:Model></rdf:Description>").toUTF8.toList, a := false, toks := [] }).2.toks.map (·.val),
           (readTag 4 descTag { rest := ("<tiff:Make>Canon</tiff:Make>\n <tiff:Model>EOS</tiff:Model></rdf:Description>").toUTF8.toList, a := false, toks := [] }).2.rest) =
    ([[69, 79, 83], [67, 97, 110, 111, 110]], []) := by rewrite [utf8_toList]; decide +kernel
/-- the attribute and the element spelling of tiff:Make = Canon give the same (parent, property, value) -/
example : (pushAll descTag.self [([32], aMake)] []).map Tok.key = (pushE descTag.self [([], eMake)] []).map Tok.key := by decide +kernel

end Imeta.Props.C13
