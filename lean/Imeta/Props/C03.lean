/-
  C03 — Exif fields of a well-formed file are extracted with their exact values.

  Property theorems about the reader model (Imeta.Model.Exif / ExifReader, tied to /repo by `vh run C03`,
  which also searches implementation vs an independently written encoder's records).

  What is proved here, for all inputs:  the value-level decoders invert the standard encodings, a directory
  entry decodes to what was encoded (see also C07), and the pending-tag buffer keeps its invariant under every
  sequence of operations (sorted by offset, at most 84 slots, nothing dropped when offsets are distinct).
  Also the refinement of the streaming reader to a random-access reader at the level of the
  pending queue: `C03_forward_read_exact` (one forward read returns exactly F[off, off+size)) and
  `C03_forward_layout_exact` (whenever the pending value tags are laid out forward without overlap, every read of the
  work loop succeeds and returns exactly its tag's bytes; Lemmas/ExifExact, ExifValue, ExifForward).
  `C03_flat_tiff_exact` carries this from the file bytes on for a flat directory (value tags only, Lemmas/ExifNested):
  DecodeTiff on a file whose first directory holds value tags in a forward, non-overlapping layout makes only successful
  reads, each equal to F[off, off+size).
  `C03_nested_tiff_exact` adds the pointers to the Exif and GPS directories (each a flat directory): IFD0 + ExifIFD +
  GPSIFD in any forward layout without overlap (Lemmas/ExifNested).
  What is still decided by the search only: sub-IFD lists, maker notes, a second top-level directory (IFD1), and the
  last step from exact value bytes to the record, i.e. the whole-file statement decode(encode(m, L)) = m for every
  layout the generator writes: see `partial` in the evidence.
-/
import Imeta.Lemmas.ExifCheck
import Imeta.Lemmas.ExifField
namespace Imeta.Exif
open Imeta

/-- ASCII values: the stored bytes minus the trailing NUL / blank padding, for every string that does not itself end
in a blank — including one-character strings (the pinned tree returned "" for those). -/
theorem C03_ascii_exact (s : Bytes) (k : Nat) (h : ∀ c, s.getLast? = some c → isBlank c = false) :
    trimNUL (s ++ List.replicate k 0) = s := by
  unfold trimNUL
  rw [List.reverse_append, List.reverse_replicate, List.dropWhile_append]
  have h0 : List.dropWhile isBlank (List.replicate k (0 : UInt8)) = [] := by
    induction k with
    | zero => rfl
    | succ n ih => simp [List.replicate_succ, isBlank, ih]
  simp only [h0, List.isEmpty_nil, if_true]
  cases hs : s.reverse with
  | nil => have : s = [] := by simpa using hs
           subst this; rfl
  | cons c t =>
    have hl : s.getLast? = some c := by
      rw [List.getLast?_eq_head?_reverse, hs]; rfl
    have := h c hl
    simp only [List.dropWhile_cons, this, Bool.false_eq_true, if_false]
    rw [← hs, List.reverse_reverse]

/-- a value of NUL bytes only, or an empty one, is reported as the empty string -/
theorem C03_ascii_blank (k : Nat) : trimNUL (List.replicate k 0) = [] := by
  have := C03_ascii_exact [] k (by simp)
  simpa using this

/-- SubSecTime is a decimal fraction of a second: one, two and three (or more) digits `x y z` give
`x00`, `xy0` and `xyz` milliseconds -/
theorem C03_subsec (x y z : UInt8) (hx : 48 ≤ x.toNat ∧ x.toNat ≤ 57) (hy : 48 ≤ y.toNat ∧ y.toNat ≤ 57)
    (hz : 48 ≤ z.toNat ∧ z.toNat ≤ 57) (rest : Bytes) :
    subSecMillis [x, 0] = (x.toNat - 48) * 100 ∧
    subSecMillis [x, y, 0] = (x.toNat - 48) * 100 + (y.toNat - 48) * 10 ∧
    subSecMillis (x :: y :: z :: rest) = (x.toNat - 48) * 100 + (y.toNat - 48) * 10 + (z.toNat - 48) := by
  refine ⟨?_, ?_, ?_⟩ <;> simp [subSecMillis, subSecDigits, hx, hy, hz]

/-- a LONG value is the offset slot itself; a SHORT value is its first two bytes (see C07 for both byte orders) -/
theorem C03_long_exact (t : Tag) (h : t.typ = tLong) : parseUint32 t = .ok t.off := by
  simp [parseUint32, h]

inductive BufOp where
  | add (t : Tag)
  | reset
  | advance

def applyOp (r : R) : BufOp → R
  | .add t => addTag r t
  | .reset => resetPosition r
  | .advance => { r with pos := r.pos + 1 }

/-- **Invariant for every reachable buffer state**: starting from the cleared buffer, after any sequence of
`addTagBuffer` / `resetPosition` / advance operations the pending tags are sorted by value offset — so they are
visited in stream order — and never occupy more than the 84 slots. -/
theorem C03_buffer_invariant (ops : List BufOp) (r : R) (hs : Sorted r.tags) (hl : r.tags.length ≤ tagMaxCount) :
    Sorted (ops.foldl applyOp r).tags ∧ (ops.foldl applyOp r).tags.length ≤ tagMaxCount := by
  induction ops generalizing r with
  | nil => exact ⟨hs, hl⟩
  | cons op rest ih =>
    simp only [List.foldl_cons]
    cases op with
    | add t => have := addTag_inv r t hs hl; exact ih _ this.1 this.2
    | reset => have := resetPosition_inv r hs hl; exact ih _ this.1 this.2
    | advance => exact ih _ hs hl

/-- the cleared buffer satisfies the invariant (non-vacuity of the hypotheses above) -/
example : Sorted ({ rest := [], po := 0, exifLength := 0, buffered := true } : R).tags ∧
    ({ rest := [], po := 0, exifLength := 0, buffered := true } : R).tags.length ≤ tagMaxCount := by
  simp [Sorted, tagMaxCount]

/-- **Nothing is dropped in a forward layout**: a tag whose value lies at or after the reader's position, with an
offset different from every pending one, is queued (the result is a permutation of the old tags plus the new one)
as long as fewer than 84 are pending. -/
theorem C03_add_keeps_all (r : R) (t : Tag) (hs : Sorted r.tags) (hpo : r.po ≤ t.off)
    (hlen : r.tags.length < tagMaxCount) (hne : ∀ x ∈ r.tags, x.off ≠ t.off) :
    (addTag r t).tags.Perm (t :: r.tags) := by
  obtain ⟨i, h, _⟩ := addTag_queued r t hs hpo hlen hne
  rw [h]
  exact perm_insert_mid r.tags i t

def sampleTb : Tables := { makeOfString := fun _ => none, makeName := fun _ => [], canonModel := fun _ => none, appleModel := fun _ => none }

/-- **One forward read is exact**: with the stream coherent with the file F (`Coh`: the unread bytes are F from the
reader's position on), a tag whose value lies at or after the position, inside F and the Exif length, within the
reader's window (4096 bytes behind a bufio.Reader, 1024 without) is read successfully, the bytes are exactly
F[t.off, t.off+t.size), and the reader stands right after them. -/
theorem C03_forward_read_exact {F : Bytes} {r : R} (h : Coh F r) (t : Tag) (hfw : r.po ≤ t.off) (hF : t.off + t.size ≤ F.length)
    (hx : t.off + t.size ≤ r.exifLength) (hlim : t.size ≤ readLimit r) :
    (readTagValue r t).err = none ∧ (readTagValue r t).buf = slice F t ∧ (readTagValue r t).r.po = t.off + t.size :=
  let h' := readTagValue_exact h t hfw hF hx hlim
  ⟨h'.1, h'.2.1, h'.2.2.1⟩

/-- **Forward layouts are read exactly**: if the pending tags from the current one on are value tags laid out one after
the other without overlap (in queue order), inside the file, the Exif length and the reader's window, and none lies
before the reader's position, then the work loop ends with every read it made successful and equal to the bytes its tag
points at (`Exact`: the ghost record of reads holds `(t, some F[t.off, t.off+t.size))` only), whatever the field parsers
do with them; the stream stays coherent with the file. -/
theorem C03_forward_layout_exact {F : Bytes} {ex0 : Rec} (tb : Tables) (fuel : Nat) (r r' : R) (hc : Coh F r) (he : Exact tb ex0 F r)
    (hlay : (r.tags.drop r.pos).Pairwise (fun a b => a.off + a.size ≤ b.off))
    (hall : ∀ t ∈ r.tags.drop r.pos, t.typ ≠ tIfd ∧ ¬(t.id = 0x014a ∧ t.ifd = ifd0) ∧ t.off + t.size ≤ F.length ∧
      t.off + t.size ≤ r.exifLength ∧ t.size ≤ readLimit r)
    (hpo : ∀ t ∈ r.tags.drop r.pos, r.po ≤ t.off)
    (h : ifdLoop tb fuel r = .ok r') : Coh F r' ∧ Exact tb ex0 F r' :=
  ifdLoop_forward tb fuel r r' hc he hlay hall hpo h

/-- non-vacuity: a 40-byte file, a fresh reader at position 10 with two pending ASCII tags at 12 (6 bytes) and 20 (8 bytes) -/
example : let F : Bytes := List.replicate 40 65
    let t1 : Tag := { off := 12, count := 6, id := 0x010f, typ := tASCII, ifd := ifd0, idx := 0, order := .little }
    let t2 : Tag := { off := 20, count := 8, id := 0x0110, typ := tASCII, ifd := ifd0, idx := 0, order := .little }
    let r : R := { rest := F.drop 10, po := 10, exifLength := 4096, buffered := true, tags := [t1, t2] }
    Coh F r ∧ Exact sampleTb r.ex F r ∧ (r.tags.drop r.pos).Pairwise (fun a b => a.off + a.size ≤ b.off) ∧
    (∀ t ∈ r.tags.drop r.pos, r.po ≤ t.off ∧ t.off + t.size ≤ F.length ∧ t.size ≤ readLimit r) := by
  refine ⟨⟨rfl, by decide, by decide⟩, ?_, ?_, ?_⟩
  · exact Exact.init _ _ _ rfl rfl
  · decide
  · intro t ht
    simp only [List.drop_zero, List.mem_cons, List.not_mem_nil, or_false] at ht
    rcases ht with rfl | rfl <;> decide

/-- **A flat TIFF in a forward layout is read exactly, from the file bytes on.**  F is the whole file (TIFF header at 0),
its first directory at `h.firstIfd` holds `cnt ≤ 83` entries; `FlatDir` asks that the directory and its next-IFD pointer
lie inside the file and the 4 MiB Exif limit and fit one read window, that every entry the reader decodes is a value tag
(no directory pointer, no sub-IFD list) which is either embedded and gives no parser a reason to read (not ASCII, not
rational) or lies out of line after the directory, inside the file, the limit and the window, that out-of-line values
do not overlap, and that a first directory (IFD0) has no successor.  Then whatever DecodeTiff returns, every read it
made succeeded and returned exactly F[t.off, t.off + t.size) for its tag t, in any entry order (the pending queue sorts
them) and for both byte orders and both reader kinds. -/
theorem C03_flat_tiff_exact (tb : Tables) (F : Bytes) (buffered : Bool) (h : Hdr) (cnt : Nat) (r' : R) (e : Option ErrKind)
    (hsmall : F.length < 2 ^ 32)
    (hd : FlatDir F { off := 0, base := 0, order := h.order, typ := h.firstIfdType, idx := 0 } h.firstIfd cnt (4 * 1024 * 1024)
      (if buffered then bufioSize else scratchSize))
    (hres : decodeTiff tb F buffered h = .ok (r', e)) : Coh F r' ∧ Exact tb { imageType := h.imageType } F r' :=
  decodeTiff_flat tb F buffered h cnt r' e hsmall hd hres

/-! non-vacuity: a 44-byte little-endian TIFF (Orientation embedded, Make "Canon" out of line) meets `FlatDir`, and the
model run on it records exactly one read, of the Make tag, returning the six bytes at offset 38 -/

def sampleF : Bytes :=
  [73, 73, 42, 0, 8, 0, 0, 0,
   2, 0,
   0x12, 0x01, 3, 0, 1, 0, 0, 0, 6, 0, 0, 0,
   0x0f, 0x01, 2, 0, 6, 0, 0, 0, 38, 0, 0, 0,
   0, 0, 0, 0,
   67, 97, 110, 111, 110, 0]
def sampleIfd : Ifd := { off := 0, base := 0, order := .little, typ := ifd0, idx := 0 }
def sT0 : Tag := { off := 6, count := 1, id := 274, typ := 3, ifd := 1, idx := 0, order := .little }
def sT1 : Tag := { off := 38, count := 6, id := 271, typ := 2, ifd := 1, idx := 0, order := .little }
theorem sE0 : entryAt sampleIfd ((sampleF.drop (8 + 2)).take (2 * 12)) 0 = .ok (some sT0) := by decide +kernel
theorem sE1 : entryAt sampleIfd ((sampleF.drop (8 + 2)).take (2 * 12)) 1 = .ok (some sT1) := by decide +kernel

example : FlatDir sampleF sampleIfd 8 2 (4 * 1024 * 1024) bufioSize := FlatDir.of_check _ _ _ _ _ _ (by decide +kernel)

def readsOf : Outcome (R × Option ErrKind) → List (Tag × Option Bytes)
  | .ok (r, _) => r.reads
  | _ => []
/-- the model run on the sample file: one read, of the Make tag, with the six bytes "Canon\0" at offset 38 -/
example : readsOf (decodeTiff sampleTb sampleF true { order := .little, firstIfd := 8, firstIfdType := ifd0, exifLength := 0, imageType := 0 })
    = [(sT1, some [67, 97, 110, 111, 110, 0])] := by decide +kernel

/-- **IFD0 with Exif and GPS directories, forward layout, read exactly from the file bytes on.**  `W` names the tags of
the layout: the out-of-line entries of IFD0 and those of the directories its pointers lead to.  `World` asks of each:
a value tag lies inside the file, the 4 MiB limit and the read window; a pointer (0x8769 / 0x8825 in IFD0) leads to a
`FlatDir`; the extents of any two different tags (a value's bytes, a pointer's directory) do not overlap; at most one
pointer of each kind; the children of a pointer belong to W; at most 83 tags are pending at once.  `DirOK` is the same for
IFD0 itself; IFD0 may have a successor (IFD1, the thumbnail directory of a camera file): its next-directory pointer is
either 0 or lies after IFD0 and away from every pending value (`IsStubEntry`, `IsStub`) — the reader queues it, seeks
to it and reads nothing of it.  Then every read DecodeTiff makes — in IFD0, the Exif and the GPS directory, in whatever order the offsets
put them — succeeds and returns exactly F[t.off, t.off + t.size). -/
theorem C03_nested_tiff_exact (tb : Tables) (F : Bytes) (buffered : Bool) (h : Hdr) (cnt : Nat) (r' : R) (e : Option ErrKind)
    (W : Tag → Prop) (hsmall : F.length < 2 ^ 32)
    (w : World F (4 * 1024 * 1024) (if buffered then bufioSize else scratchSize) W)
    (hroot : DirOK F { off := 0, base := 0, order := h.order, typ := h.firstIfdType, idx := 0 } h.firstIfd cnt (4 * 1024 * 1024)
      (if buffered then bufioSize else scratchSize) (extent F))
    (hrootW : ∀ x, IsEntry F { off := 0, base := 0, order := h.order, typ := h.firstIfdType, idx := 0 } h.firstIfd cnt x ∨
      IsStubEntry F { off := 0, base := 0, order := h.order, typ := h.firstIfdType, idx := 0 } h.firstIfd cnt x → W x)
    (hres : decodeTiff tb F buffered h = .ok (r', e)) : Coh F r' ∧ Exact tb { imageType := h.imageType } F r' :=
  let hn := decodeTiff_nested tb F buffered h cnt r' e W hsmall w hroot hrootW hres
  ⟨hn.1, hn.2.1⟩

/-! non-vacuity: a 70-byte TIFF — IFD0 {Make "Canon" at 38, Exif pointer to 44}, Exif directory at 44 {LensModel "RF 50mm"
at 62} — meets `World` and `DirOK`, and the model run on it makes exactly the two reads, in file order -/

def nF : Bytes :=
  [73, 73, 42, 0, 8, 0, 0, 0,
   2, 0,
   0x0f, 0x01, 2, 0, 6, 0, 0, 0, 38, 0, 0, 0,
   0x69, 0x87, 4, 0, 1, 0, 0, 0, 44, 0, 0, 0,
   0, 0, 0, 0,
   67, 97, 110, 111, 110, 0,
   1, 0,
   0x34, 0xa4, 2, 0, 8, 0, 0, 0, 62, 0, 0, 0,
   0, 0, 0, 0,
   82, 70, 32, 53, 48, 109, 109, 0]
def nM : Tag := { off := 38, count := 6, id := 271, typ := 2, ifd := 1, idx := 0, order := .little }
def nP : Tag := { off := 44, count := 1, id := 0x8769, typ := tIfd, ifd := 1, idx := 0, order := .little }
def nL : Tag := { off := 62, count := 8, id := 42036, typ := 2, ifd := 3, idx := 0, order := .little }
theorem nWorld : World nF (4 * 1024 * 1024) bufioSize (fun x => x ∈ [nM, nP, nL]) := World.of_check _ _ _ _ (by decide +kernel)

theorem nRootOK : DirOK nF sampleIfd 8 2 (4 * 1024 * 1024) bufioSize (extent nF) := DirOK.of_check _ _ _ _ _ _ _ (by decide +kernel)

theorem nRootW : ∀ x, IsEntry nF sampleIfd 8 2 x ∨ IsStubEntry nF sampleIfd 8 2 x → x ∈ [nM, nP, nL] :=
  rootW_of_check _ _ _ _ _ (by decide +kernel)

/-- the sample meets every hypothesis of `C03_nested_tiff_exact` -/
example : World nF (4 * 1024 * 1024) bufioSize (fun x => x ∈ [nM, nP, nL]) ∧
    DirOK nF sampleIfd 8 2 (4 * 1024 * 1024) bufioSize (extent nF) ∧
    (∀ x, IsEntry nF sampleIfd 8 2 x ∨ IsStubEntry nF sampleIfd 8 2 x → x ∈ [nM, nP, nL]) := ⟨nWorld, nRootOK, nRootW⟩

/-- and the model run on it makes exactly two reads, Make then LensModel, each with the bytes at its offset -/
example : readsOf (decodeTiff sampleTb nF true { order := .little, firstIfd := 8, firstIfdType := ifd0, exifLength := 0, imageType := 0 })
    = [(nM, some [67, 97, 110, 111, 110, 0]), (nL, some [82, 70, 32, 53, 48, 109, 109, 0])] := by decide +kernel

/-! non-vacuity of the IFD1 case: a 38-byte TIFF whose IFD0 {Make "Canon" at 26} has a successor directory (IFD1, empty)
at 32.  The reader queues a pointer for IFD1 and only seeks to it; the layout admits that pointer (`IsStub`). -/

def jF : Bytes :=
  [73, 73, 42, 0, 8, 0, 0, 0,
   1, 0,
   0x0f, 0x01, 2, 0, 6, 0, 0, 0, 26, 0, 0, 0,
   32, 0, 0, 0,
   67, 97, 110, 111, 110, 0,
   0, 0, 0, 0, 0, 0]
def jM : Tag := { off := 26, count := 6, id := 271, typ := 2, ifd := 1, idx := 0, order := .little }
def jS : Tag := stubOf sampleIfd 32
theorem jNext : u32 sampleIfd.order ((jF.drop (8 + 2 + 12 * 1)).take 4) = .ok 32 := by decide +kernel
theorem jWorld : World jF (4 * 1024 * 1024) bufioSize (fun x => x ∈ [jM, jS]) := World.of_check _ _ _ _ (by decide +kernel)

theorem jRootOK : DirOK jF sampleIfd 8 1 (4 * 1024 * 1024) bufioSize (extent jF) := DirOK.of_check _ _ _ _ _ _ _ (by decide +kernel)

theorem jRootW : ∀ x, IsEntry jF sampleIfd 8 1 x ∨ IsStubEntry jF sampleIfd 8 1 x → x ∈ [jM, jS] :=
  rootW_of_check _ _ _ _ _ (by decide +kernel)

/-- the IFD1 sample meets every hypothesis of `C03_nested_tiff_exact`, with a non-zero next-directory pointer -/
example : World jF (4 * 1024 * 1024) bufioSize (fun x => x ∈ [jM, jS]) ∧
    DirOK jF sampleIfd 8 1 (4 * 1024 * 1024) bufioSize (extent jF) ∧
    (∀ x, IsEntry jF sampleIfd 8 1 x ∨ IsStubEntry jF sampleIfd 8 1 x → x ∈ [jM, jS]) ∧
    IsStubEntry jF sampleIfd 8 1 jS := ⟨jWorld, jRootOK, jRootW, rfl, 32, by decide, jNext, rfl⟩

/-- and the model run on it makes exactly one read (Make); IFD1 is sought to, nothing of it is read -/
example : readsOf (decodeTiff sampleTb jF true { order := .little, firstIfd := 8, firstIfdType := ifd0, exifLength := 0, imageType := 0 })
    = [(jM, some [67, 97, 110, 111, 110, 0])] := by decide +kernel

/-- **Streaming = random access (the refinement).**  `parseTagV` is the field-parser layer written as a pure function of
the record so far, the tag and the bytes of its value (generated from the model's own parsers and proved equal to them,
Lemmas/ExifValue); `idealRun tb F ex0 ts` applies it to a list of tags, handing each tag exactly F[t.off, t.off+t.size).
For IFD0 + Exif + GPS directories in a forward layout (hypotheses of `C03_nested_tiff_exact`): the record DecodeTiff ends
with is the record this random-access decoder computes from the tags the streaming reader parsed, in the order it parsed
them (`r'.parsed`, a ghost record: embedded entries as the directory is read, out-of-line values in file order) — the
forward-only, windowed, queue-driven reading changes nothing about which bytes a field is made from. -/
theorem C03_streaming_equals_random_access (tb : Tables) (F : Bytes) (buffered : Bool) (h : Hdr) (cnt : Nat) (r' : R) (e : Option ErrKind)
    (W : Tag → Prop) (hsmall : F.length < 2 ^ 32)
    (w : World F (4 * 1024 * 1024) (if buffered then bufioSize else scratchSize) W)
    (hroot : DirOK F { off := 0, base := 0, order := h.order, typ := h.firstIfdType, idx := 0 } h.firstIfd cnt (4 * 1024 * 1024)
      (if buffered then bufioSize else scratchSize) (extent F))
    (hrootW : ∀ x, IsEntry F { off := 0, base := 0, order := h.order, typ := h.firstIfdType, idx := 0 } h.firstIfd cnt x ∨
      IsStubEntry F { off := 0, base := 0, order := h.order, typ := h.firstIfdType, idx := 0 } h.firstIfd cnt x → W x)
    (hres : decodeTiff tb F buffered h = .ok (r', e)) :
    idealRun tb F { imageType := h.imageType } r'.parsed = .ok r'.ex :=
  (decodeTiff_nested tb F buffered h cnt r' e W hsmall w hroot hrootW hres).2.1.ref

/-- the streaming parser of one tag is the pure function of its one read (for every reader state) -/
theorem C03_parser_is_function_of_its_read (tb : Tables) (r : R) (t : Tag) :
    omap (fun r' => r'.ex) (parseTag tb r t) = parseTagV tb r.ex t (readTagValue r t).buf (readTagValue r t).err :=
  ValO.parseTag tb r t

def parsedOf : Outcome (R × Option ErrKind) → List Tag
  | .ok (r, _) => r.parsed
  | _ => []
/-! on the sample: the reader parsed Make then LensModel, and the random-access decoder on those two tags gives the
record with make = "Canon" and lensModel = "RF 50mm" -/
example : parsedOf (decodeTiff sampleTb nF true { order := .little, firstIfd := 8, firstIfdType := ifd0, exifLength := 0, imageType := 0 }) = [nM, nL] := by
  decide +kernel
example : (match idealRun sampleTb nF {} [nM, nL] with | .ok ex => (ex.make, ex.lensModel) | _ => ([], [])) =
    ([67, 97, 110, 111, 110], [82, 70, 32, 53, 48, 109, 109]) := by decide +kernel

/-- **A field, end to end (IFD0): Software.**  Under the hypotheses of `C03_nested_tiff_exact`, if a is the last Software
tag (IFD0, 0x0131) the reader parsed, ASCII and out of line, then the Software field DecodeTiff returns is exactly the bytes
F[a.off, a.off + a.size) minus trailing NUL / blank padding — by `C03_ascii_exact` the string that was encoded. -/
theorem C03_software_end_to_end (tb : Tables) (F : Bytes) (buffered : Bool) (h : Hdr) (cnt : Nat) (r' : R) (e : Option ErrKind)
    (W : Tag → Prop) (hsmall : F.length < 2 ^ 32)
    (w : World F (4 * 1024 * 1024) (if buffered then bufioSize else scratchSize) W)
    (hroot : DirOK F { off := 0, base := 0, order := h.order, typ := h.firstIfdType, idx := 0 } h.firstIfd cnt (4 * 1024 * 1024)
      (if buffered then bufioSize else scratchSize) (extent F))
    (hrootW : ∀ x, IsEntry F { off := 0, base := 0, order := h.order, typ := h.firstIfdType, idx := 0 } h.firstIfd cnt x ∨
      IsStubEntry F { off := 0, base := 0, order := h.order, typ := h.firstIfdType, idx := 0 } h.firstIfd cnt x → W x)
    (hres : decodeTiff tb F buffered h = .ok (r', e))
    (pre post : List Tag) (a : Tag) (hsplit : r'.parsed = pre ++ a :: post) (h0 : a.ifd = ifd0) (hid : a.id = 0x0131)
    (hemb : a.isEmbedded = false) (hasc : isASCII a = true) (hpost : ∀ t ∈ post, ¬(t.ifd = ifd0 ∧ t.id = 0x0131)) :
    r'.ex.software = trimNUL (slice F a) :=
  (owns_software tb).exact_eq (decodeTiff_nested tb F buffered h cnt r' e W hsmall w hroot hrootW hres).2.1 hsplit h0 hid hpost (parseStringV_outOfLine hemb hasc)

/-- **A field, end to end (Exif directory): LensModel** (ExifIFD, 0xa434), reached through the pointer in IFD0 -/
theorem C03_lensModel_end_to_end (tb : Tables) (F : Bytes) (buffered : Bool) (h : Hdr) (cnt : Nat) (r' : R) (e : Option ErrKind)
    (W : Tag → Prop) (hsmall : F.length < 2 ^ 32)
    (w : World F (4 * 1024 * 1024) (if buffered then bufioSize else scratchSize) W)
    (hroot : DirOK F { off := 0, base := 0, order := h.order, typ := h.firstIfdType, idx := 0 } h.firstIfd cnt (4 * 1024 * 1024)
      (if buffered then bufioSize else scratchSize) (extent F))
    (hrootW : ∀ x, IsEntry F { off := 0, base := 0, order := h.order, typ := h.firstIfdType, idx := 0 } h.firstIfd cnt x ∨
      IsStubEntry F { off := 0, base := 0, order := h.order, typ := h.firstIfdType, idx := 0 } h.firstIfd cnt x → W x)
    (hres : decodeTiff tb F buffered h = .ok (r', e))
    (pre post : List Tag) (a : Tag) (hsplit : r'.parsed = pre ++ a :: post) (h0 : a.ifd = exifIFD) (hid : a.id = 0xa434)
    (hemb : a.isEmbedded = false) (hasc : isASCII a = true) (hpost : ∀ t ∈ post, ¬(t.ifd = exifIFD ∧ t.id = 0xa434)) :
    r'.ex.lensModel = trimNUL (slice F a) :=
  (owns_lensModel tb).exact_eq (decodeTiff_nested tb F buffered h cnt r' e W hsmall w hroot hrootW hres).2.1 hsplit h0 hid hpost (parseStringV_outOfLine hemb hasc)

/-- **A field, end to end: Copyright (IFD0, 0x8298)** — the same statement as for Software / LensModel -/
theorem C03_copyright_end_to_end (tb : Tables) (F : Bytes) (buffered : Bool) (h : Hdr) (cnt : Nat) (r' : R) (e : Option ErrKind)
    (W : Tag → Prop) (hsmall : F.length < 2 ^ 32)
    (w : World F (4 * 1024 * 1024) (if buffered then bufioSize else scratchSize) W)
    (hroot : DirOK F { off := 0, base := 0, order := h.order, typ := h.firstIfdType, idx := 0 } h.firstIfd cnt (4 * 1024 * 1024)
      (if buffered then bufioSize else scratchSize) (extent F))
    (hrootW : ∀ x, IsEntry F { off := 0, base := 0, order := h.order, typ := h.firstIfdType, idx := 0 } h.firstIfd cnt x ∨
      IsStubEntry F { off := 0, base := 0, order := h.order, typ := h.firstIfdType, idx := 0 } h.firstIfd cnt x → W x)
    (hres : decodeTiff tb F buffered h = .ok (r', e))
    (pre post : List Tag) (a : Tag) (hsplit : r'.parsed = pre ++ a :: post) (h0 : a.ifd = ifd0) (hid : a.id = 0x8298)
    (hemb : a.isEmbedded = false) (hasc : isASCII a = true) (hpost : ∀ t ∈ post, ¬(t.ifd = ifd0 ∧ t.id = 0x8298)) :
    r'.ex.copyright = trimNUL (slice F a) :=
  (owns_copyright tb).exact_eq (decodeTiff_nested tb F buffered h cnt r' e W hsmall w hroot hrootW hres).2.1 hsplit h0 hid hpost (parseStringV_outOfLine hemb hasc)

/-- **A field, end to end: ImageDescription (IFD0, 0x010e)** — the same statement as for Software / LensModel -/
theorem C03_description_end_to_end (tb : Tables) (F : Bytes) (buffered : Bool) (h : Hdr) (cnt : Nat) (r' : R) (e : Option ErrKind)
    (W : Tag → Prop) (hsmall : F.length < 2 ^ 32)
    (w : World F (4 * 1024 * 1024) (if buffered then bufioSize else scratchSize) W)
    (hroot : DirOK F { off := 0, base := 0, order := h.order, typ := h.firstIfdType, idx := 0 } h.firstIfd cnt (4 * 1024 * 1024)
      (if buffered then bufioSize else scratchSize) (extent F))
    (hrootW : ∀ x, IsEntry F { off := 0, base := 0, order := h.order, typ := h.firstIfdType, idx := 0 } h.firstIfd cnt x ∨
      IsStubEntry F { off := 0, base := 0, order := h.order, typ := h.firstIfdType, idx := 0 } h.firstIfd cnt x → W x)
    (hres : decodeTiff tb F buffered h = .ok (r', e))
    (pre post : List Tag) (a : Tag) (hsplit : r'.parsed = pre ++ a :: post) (h0 : a.ifd = ifd0) (hid : a.id = 0x010e)
    (hemb : a.isEmbedded = false) (hasc : isASCII a = true) (hpost : ∀ t ∈ post, ¬(t.ifd = ifd0 ∧ t.id = 0x010e)) :
    r'.ex.description = trimNUL (slice F a) :=
  (owns_description tb).exact_eq (decodeTiff_nested tb F buffered h cnt r' e W hsmall w hroot hrootW hres).2.1 hsplit h0 hid hpost (parseStringV_outOfLine hemb hasc)

/-- **A field, end to end: LensMake (ExifIFD, 0xa433)** — the same statement as for Software / LensModel -/
theorem C03_lensMake_end_to_end (tb : Tables) (F : Bytes) (buffered : Bool) (h : Hdr) (cnt : Nat) (r' : R) (e : Option ErrKind)
    (W : Tag → Prop) (hsmall : F.length < 2 ^ 32)
    (w : World F (4 * 1024 * 1024) (if buffered then bufioSize else scratchSize) W)
    (hroot : DirOK F { off := 0, base := 0, order := h.order, typ := h.firstIfdType, idx := 0 } h.firstIfd cnt (4 * 1024 * 1024)
      (if buffered then bufioSize else scratchSize) (extent F))
    (hrootW : ∀ x, IsEntry F { off := 0, base := 0, order := h.order, typ := h.firstIfdType, idx := 0 } h.firstIfd cnt x ∨
      IsStubEntry F { off := 0, base := 0, order := h.order, typ := h.firstIfdType, idx := 0 } h.firstIfd cnt x → W x)
    (hres : decodeTiff tb F buffered h = .ok (r', e))
    (pre post : List Tag) (a : Tag) (hsplit : r'.parsed = pre ++ a :: post) (h0 : a.ifd = exifIFD) (hid : a.id = 0xa433)
    (hemb : a.isEmbedded = false) (hasc : isASCII a = true) (hpost : ∀ t ∈ post, ¬(t.ifd = exifIFD ∧ t.id = 0xa433)) :
    r'.ex.lensMake = trimNUL (slice F a) :=
  (owns_lensMake tb).exact_eq (decodeTiff_nested tb F buffered h cnt r' e W hsmall w hroot hrootW hres).2.1 hsplit h0 hid hpost (parseStringV_outOfLine hemb hasc)

/-- **A field, end to end: LensSerialNumber (ExifIFD, 0xa435)** — the same statement as for Software / LensModel -/
theorem C03_lensSerial_end_to_end (tb : Tables) (F : Bytes) (buffered : Bool) (h : Hdr) (cnt : Nat) (r' : R) (e : Option ErrKind)
    (W : Tag → Prop) (hsmall : F.length < 2 ^ 32)
    (w : World F (4 * 1024 * 1024) (if buffered then bufioSize else scratchSize) W)
    (hroot : DirOK F { off := 0, base := 0, order := h.order, typ := h.firstIfdType, idx := 0 } h.firstIfd cnt (4 * 1024 * 1024)
      (if buffered then bufioSize else scratchSize) (extent F))
    (hrootW : ∀ x, IsEntry F { off := 0, base := 0, order := h.order, typ := h.firstIfdType, idx := 0 } h.firstIfd cnt x ∨
      IsStubEntry F { off := 0, base := 0, order := h.order, typ := h.firstIfdType, idx := 0 } h.firstIfd cnt x → W x)
    (hres : decodeTiff tb F buffered h = .ok (r', e))
    (pre post : List Tag) (a : Tag) (hsplit : r'.parsed = pre ++ a :: post) (h0 : a.ifd = exifIFD) (hid : a.id = 0xa435)
    (hemb : a.isEmbedded = false) (hasc : isASCII a = true) (hpost : ∀ t ∈ post, ¬(t.ifd = exifIFD ∧ t.id = 0xa435)) :
    r'.ex.lensSerial = trimNUL (slice F a) :=
  (owns_lensSerial tb).exact_eq (decodeTiff_nested tb F buffered h cnt r' e W hsmall w hroot hrootW hres).2.1 hsplit h0 hid hpost (parseStringV_outOfLine hemb hasc)

/-- **A numeric field, end to end: Orientation (IFD0, 0x0112)** — the record holds what `parseUint16` makes of the last
such entry (its count, type and 4-byte value slot, i.e. bytes of the directory in F), whatever else the file contains -/
theorem C03_orientation_end_to_end (tb : Tables) (F : Bytes) (buffered : Bool) (h : Hdr) (cnt : Nat) (r' : R) (e : Option ErrKind)
    (W : Tag → Prop) (hsmall : F.length < 2 ^ 32)
    (w : World F (4 * 1024 * 1024) (if buffered then bufioSize else scratchSize) W)
    (hroot : DirOK F { off := 0, base := 0, order := h.order, typ := h.firstIfdType, idx := 0 } h.firstIfd cnt (4 * 1024 * 1024)
      (if buffered then bufioSize else scratchSize) (extent F))
    (hrootW : ∀ x, IsEntry F { off := 0, base := 0, order := h.order, typ := h.firstIfdType, idx := 0 } h.firstIfd cnt x ∨
      IsStubEntry F { off := 0, base := 0, order := h.order, typ := h.firstIfdType, idx := 0 } h.firstIfd cnt x → W x)
    (hres : decodeTiff tb F buffered h = .ok (r', e))
    (pre post : List Tag) (a : Tag) (v : Nat) (hsplit : r'.parsed = pre ++ a :: post) (h0 : a.ifd = ifd0) (hid : a.id = 0x0112)
    (hv : parseUint16 a = .ok v) (hpost : ∀ t ∈ post, ¬(t.ifd = ifd0 ∧ t.id = 0x0112)) :
    r'.ex.orientation = v :=
  (owns_orientation tb).exact_eq (decodeTiff_nested tb F buffered h cnt r' e W hsmall w hroot hrootW hres).2.1 hsplit h0 hid hpost hv

/-- **A numeric field, end to end: StripOffsets (IFD0, 0x0111)** — the record holds what `parseUint32` makes of the last
such entry (its count, type and 4-byte value slot, i.e. bytes of the directory in F), whatever else the file contains -/
theorem C03_stripOffsets_end_to_end (tb : Tables) (F : Bytes) (buffered : Bool) (h : Hdr) (cnt : Nat) (r' : R) (e : Option ErrKind)
    (W : Tag → Prop) (hsmall : F.length < 2 ^ 32)
    (w : World F (4 * 1024 * 1024) (if buffered then bufioSize else scratchSize) W)
    (hroot : DirOK F { off := 0, base := 0, order := h.order, typ := h.firstIfdType, idx := 0 } h.firstIfd cnt (4 * 1024 * 1024)
      (if buffered then bufioSize else scratchSize) (extent F))
    (hrootW : ∀ x, IsEntry F { off := 0, base := 0, order := h.order, typ := h.firstIfdType, idx := 0 } h.firstIfd cnt x ∨
      IsStubEntry F { off := 0, base := 0, order := h.order, typ := h.firstIfdType, idx := 0 } h.firstIfd cnt x → W x)
    (hres : decodeTiff tb F buffered h = .ok (r', e))
    (pre post : List Tag) (a : Tag) (v : Nat) (hsplit : r'.parsed = pre ++ a :: post) (h0 : a.ifd = ifd0) (hid : a.id = 0x0111)
    (hv : parseUint32 a = .ok v) (hpost : ∀ t ∈ post, ¬(t.ifd = ifd0 ∧ t.id = 0x0111)) :
    r'.ex.stripOffsets = v :=
  (owns_stripOffsets tb).exact_eq (decodeTiff_nested tb F buffered h cnt r' e W hsmall w hroot hrootW hres).2.1 hsplit h0 hid hpost hv

/-- **A numeric field, end to end: StripByteCounts (IFD0, 0x0117)** — the record holds what `parseUint32` makes of the last
such entry (its count, type and 4-byte value slot, i.e. bytes of the directory in F), whatever else the file contains -/
theorem C03_stripByteCounts_end_to_end (tb : Tables) (F : Bytes) (buffered : Bool) (h : Hdr) (cnt : Nat) (r' : R) (e : Option ErrKind)
    (W : Tag → Prop) (hsmall : F.length < 2 ^ 32)
    (w : World F (4 * 1024 * 1024) (if buffered then bufioSize else scratchSize) W)
    (hroot : DirOK F { off := 0, base := 0, order := h.order, typ := h.firstIfdType, idx := 0 } h.firstIfd cnt (4 * 1024 * 1024)
      (if buffered then bufioSize else scratchSize) (extent F))
    (hrootW : ∀ x, IsEntry F { off := 0, base := 0, order := h.order, typ := h.firstIfdType, idx := 0 } h.firstIfd cnt x ∨
      IsStubEntry F { off := 0, base := 0, order := h.order, typ := h.firstIfdType, idx := 0 } h.firstIfd cnt x → W x)
    (hres : decodeTiff tb F buffered h = .ok (r', e))
    (pre post : List Tag) (a : Tag) (v : Nat) (hsplit : r'.parsed = pre ++ a :: post) (h0 : a.ifd = ifd0) (hid : a.id = 0x0117)
    (hv : parseUint32 a = .ok v) (hpost : ∀ t ∈ post, ¬(t.ifd = ifd0 ∧ t.id = 0x0117)) :
    r'.ex.stripByteCounts = v :=
  (owns_stripByteCounts tb).exact_eq (decodeTiff_nested tb F buffered h cnt r' e W hsmall w hroot hrootW hres).2.1 hsplit h0 hid hpost hv

/-- **A numeric field, end to end: ExposureProgram (ExifIFD, 0x8822)** — the record holds what `parseUint16` makes of the last
such entry (its count, type and 4-byte value slot, i.e. bytes of the directory in F), whatever else the file contains -/
theorem C03_exposureProgram_end_to_end (tb : Tables) (F : Bytes) (buffered : Bool) (h : Hdr) (cnt : Nat) (r' : R) (e : Option ErrKind)
    (W : Tag → Prop) (hsmall : F.length < 2 ^ 32)
    (w : World F (4 * 1024 * 1024) (if buffered then bufioSize else scratchSize) W)
    (hroot : DirOK F { off := 0, base := 0, order := h.order, typ := h.firstIfdType, idx := 0 } h.firstIfd cnt (4 * 1024 * 1024)
      (if buffered then bufioSize else scratchSize) (extent F))
    (hrootW : ∀ x, IsEntry F { off := 0, base := 0, order := h.order, typ := h.firstIfdType, idx := 0 } h.firstIfd cnt x ∨
      IsStubEntry F { off := 0, base := 0, order := h.order, typ := h.firstIfdType, idx := 0 } h.firstIfd cnt x → W x)
    (hres : decodeTiff tb F buffered h = .ok (r', e))
    (pre post : List Tag) (a : Tag) (v : Nat) (hsplit : r'.parsed = pre ++ a :: post) (h0 : a.ifd = exifIFD) (hid : a.id = 0x8822)
    (hv : parseUint16 a = .ok v) (hpost : ∀ t ∈ post, ¬(t.ifd = exifIFD ∧ t.id = 0x8822)) :
    r'.ex.exposureProgram = v :=
  (owns_exposureProgram tb).exact_eq (decodeTiff_nested tb F buffered h cnt r' e W hsmall w hroot hrootW hres).2.1 hsplit h0 hid hpost hv

/-- **A numeric field, end to end: ExposureMode (ExifIFD, 0xa402)** — the record holds what `parseUint16` makes of the last
such entry (its count, type and 4-byte value slot, i.e. bytes of the directory in F), whatever else the file contains -/
theorem C03_exposureMode_end_to_end (tb : Tables) (F : Bytes) (buffered : Bool) (h : Hdr) (cnt : Nat) (r' : R) (e : Option ErrKind)
    (W : Tag → Prop) (hsmall : F.length < 2 ^ 32)
    (w : World F (4 * 1024 * 1024) (if buffered then bufioSize else scratchSize) W)
    (hroot : DirOK F { off := 0, base := 0, order := h.order, typ := h.firstIfdType, idx := 0 } h.firstIfd cnt (4 * 1024 * 1024)
      (if buffered then bufioSize else scratchSize) (extent F))
    (hrootW : ∀ x, IsEntry F { off := 0, base := 0, order := h.order, typ := h.firstIfdType, idx := 0 } h.firstIfd cnt x ∨
      IsStubEntry F { off := 0, base := 0, order := h.order, typ := h.firstIfdType, idx := 0 } h.firstIfd cnt x → W x)
    (hres : decodeTiff tb F buffered h = .ok (r', e))
    (pre post : List Tag) (a : Tag) (v : Nat) (hsplit : r'.parsed = pre ++ a :: post) (h0 : a.ifd = exifIFD) (hid : a.id = 0xa402)
    (hv : parseUint16 a = .ok v) (hpost : ∀ t ∈ post, ¬(t.ifd = exifIFD ∧ t.id = 0xa402)) :
    r'.ex.exposureMode = v :=
  (owns_exposureMode tb).exact_eq (decodeTiff_nested tb F buffered h cnt r' e W hsmall w hroot hrootW hres).2.1 hsplit h0 hid hpost hv

/-- **A numeric field, end to end: MeteringMode (ExifIFD, 0x9207)** — the record holds what `parseUint16` makes of the last
such entry (its count, type and 4-byte value slot, i.e. bytes of the directory in F), whatever else the file contains -/
theorem C03_meteringMode_end_to_end (tb : Tables) (F : Bytes) (buffered : Bool) (h : Hdr) (cnt : Nat) (r' : R) (e : Option ErrKind)
    (W : Tag → Prop) (hsmall : F.length < 2 ^ 32)
    (w : World F (4 * 1024 * 1024) (if buffered then bufioSize else scratchSize) W)
    (hroot : DirOK F { off := 0, base := 0, order := h.order, typ := h.firstIfdType, idx := 0 } h.firstIfd cnt (4 * 1024 * 1024)
      (if buffered then bufioSize else scratchSize) (extent F))
    (hrootW : ∀ x, IsEntry F { off := 0, base := 0, order := h.order, typ := h.firstIfdType, idx := 0 } h.firstIfd cnt x ∨
      IsStubEntry F { off := 0, base := 0, order := h.order, typ := h.firstIfdType, idx := 0 } h.firstIfd cnt x → W x)
    (hres : decodeTiff tb F buffered h = .ok (r', e))
    (pre post : List Tag) (a : Tag) (v : Nat) (hsplit : r'.parsed = pre ++ a :: post) (h0 : a.ifd = exifIFD) (hid : a.id = 0x9207)
    (hv : parseUint16 a = .ok v) (hpost : ∀ t ∈ post, ¬(t.ifd = exifIFD ∧ t.id = 0x9207)) :
    r'.ex.meteringMode = v :=
  (owns_meteringMode tb).exact_eq (decodeTiff_nested tb F buffered h cnt r' e W hsmall w hroot hrootW hres).2.1 hsplit h0 hid hpost hv

/-- **A numeric field, end to end: ISOSpeedRatings (ExifIFD, 0x8827)** — the record holds what `parseUint32` makes of the last
such entry (its count, type and 4-byte value slot, i.e. bytes of the directory in F), whatever else the file contains -/
theorem C03_isoSpeed_end_to_end (tb : Tables) (F : Bytes) (buffered : Bool) (h : Hdr) (cnt : Nat) (r' : R) (e : Option ErrKind)
    (W : Tag → Prop) (hsmall : F.length < 2 ^ 32)
    (w : World F (4 * 1024 * 1024) (if buffered then bufioSize else scratchSize) W)
    (hroot : DirOK F { off := 0, base := 0, order := h.order, typ := h.firstIfdType, idx := 0 } h.firstIfd cnt (4 * 1024 * 1024)
      (if buffered then bufioSize else scratchSize) (extent F))
    (hrootW : ∀ x, IsEntry F { off := 0, base := 0, order := h.order, typ := h.firstIfdType, idx := 0 } h.firstIfd cnt x ∨
      IsStubEntry F { off := 0, base := 0, order := h.order, typ := h.firstIfdType, idx := 0 } h.firstIfd cnt x → W x)
    (hres : decodeTiff tb F buffered h = .ok (r', e))
    (pre post : List Tag) (a : Tag) (v : Nat) (hsplit : r'.parsed = pre ++ a :: post) (h0 : a.ifd = exifIFD) (hid : a.id = 0x8827)
    (hv : parseUint32 a = .ok v) (hpost : ∀ t ∈ post, ¬(t.ifd = exifIFD ∧ t.id = 0x8827)) :
    r'.ex.isoSpeed = v :=
  (owns_isoSpeed tb).exact_eq (decodeTiff_nested tb F buffered h cnt r' e W hsmall w hroot hrootW hres).2.1 hsplit h0 hid hpost hv

/-- **A numeric field, end to end: Flash (ExifIFD, 0x9209)** — the record holds what `parseUint16` makes of the last
such entry (its count, type and 4-byte value slot, i.e. bytes of the directory in F), whatever else the file contains -/
theorem C03_flash_end_to_end (tb : Tables) (F : Bytes) (buffered : Bool) (h : Hdr) (cnt : Nat) (r' : R) (e : Option ErrKind)
    (W : Tag → Prop) (hsmall : F.length < 2 ^ 32)
    (w : World F (4 * 1024 * 1024) (if buffered then bufioSize else scratchSize) W)
    (hroot : DirOK F { off := 0, base := 0, order := h.order, typ := h.firstIfdType, idx := 0 } h.firstIfd cnt (4 * 1024 * 1024)
      (if buffered then bufioSize else scratchSize) (extent F))
    (hrootW : ∀ x, IsEntry F { off := 0, base := 0, order := h.order, typ := h.firstIfdType, idx := 0 } h.firstIfd cnt x ∨
      IsStubEntry F { off := 0, base := 0, order := h.order, typ := h.firstIfdType, idx := 0 } h.firstIfd cnt x → W x)
    (hres : decodeTiff tb F buffered h = .ok (r', e))
    (pre post : List Tag) (a : Tag) (v : Nat) (hsplit : r'.parsed = pre ++ a :: post) (h0 : a.ifd = exifIFD) (hid : a.id = 0x9209)
    (hv : parseUint16 a = .ok v) (hpost : ∀ t ∈ post, ¬(t.ifd = exifIFD ∧ t.id = 0x9209)) :
    r'.ex.flash = v :=
  (owns_flash tb).exact_eq (decodeTiff_nested tb F buffered h cnt r' e W hsmall w hroot hrootW hres).2.1 hsplit h0 hid hpost hv

/-- **Make, end to end** (IFD0, 0x010f): the record's make string and make enum are `makeOf tb` — the library's
CameraMakeFromString / String tables, parameters of the model — applied to F[a.off, a.off+a.size) minus trailing padding -/
theorem C03_make_end_to_end (tb : Tables) (F : Bytes) (buffered : Bool) (h : Hdr) (cnt : Nat) (r' : R) (e : Option ErrKind)
    (W : Tag → Prop) (hsmall : F.length < 2 ^ 32)
    (w : World F (4 * 1024 * 1024) (if buffered then bufioSize else scratchSize) W)
    (hroot : DirOK F { off := 0, base := 0, order := h.order, typ := h.firstIfdType, idx := 0 } h.firstIfd cnt (4 * 1024 * 1024)
      (if buffered then bufioSize else scratchSize) (extent F))
    (hrootW : ∀ x, IsEntry F { off := 0, base := 0, order := h.order, typ := h.firstIfdType, idx := 0 } h.firstIfd cnt x ∨
      IsStubEntry F { off := 0, base := 0, order := h.order, typ := h.firstIfdType, idx := 0 } h.firstIfd cnt x → W x)
    (hres : decodeTiff tb F buffered h = .ok (r', e))
    (pre post : List Tag) (a : Tag) (hsplit : r'.parsed = pre ++ a :: post) (h0 : a.ifd = ifd0) (hid : a.id = 0x010f)
    (hemb : a.isEmbedded = false) (hasc : isASCII a = true) (hpost : ∀ t ∈ post, ¬(t.ifd = ifd0 ∧ t.id = 0x010f)) :
    (r'.ex.make, r'.ex.cameraMake) = makeOf tb (trimNUL (slice F a)) :=
  (owns_make tb).exact_eq (decodeTiff_nested tb F buffered h cnt r' e W hsmall w hroot hrootW hres).2.1 hsplit h0 hid hpost
    (congrArg (omap (makeOf tb)) (parseBytesV_outOfLine hemb hasc))

/-! The remaining single-writer fields (`Owns` instances of Lemmas/ExifField.lean): the record holds what the
field's value parser — a pure function of the entry and of its bytes, proved equal to the streaming parser — makes of the
last such entry and of exactly F[a.off, a.off+a.size). -/

/-- **ModifyDate (IFD0, 0x0132), end to end** -/
theorem C03_modifyDate_end_to_end (tb : Tables) (F : Bytes) (buffered : Bool) (h : Hdr) (cnt : Nat) (r' : R) (e : Option ErrKind)
    (W : Tag → Prop) (hsmall : F.length < 2 ^ 32)
    (w : World F (4 * 1024 * 1024) (if buffered then bufioSize else scratchSize) W)
    (hroot : DirOK F { off := 0, base := 0, order := h.order, typ := h.firstIfdType, idx := 0 } h.firstIfd cnt (4 * 1024 * 1024)
      (if buffered then bufioSize else scratchSize) (extent F))
    (hrootW : ∀ x, IsEntry F { off := 0, base := 0, order := h.order, typ := h.firstIfdType, idx := 0 } h.firstIfd cnt x ∨
      IsStubEntry F { off := 0, base := 0, order := h.order, typ := h.firstIfdType, idx := 0 } h.firstIfd cnt x → W x)
    (hres : decodeTiff tb F buffered h = .ok (r', e))
    (pre post : List Tag) (a : Tag) (hsplit : r'.parsed = pre ++ a :: post) (h0 : a.ifd = ifd0) (hid : a.id = 0x0132)
    (hpost : ∀ t ∈ post, ¬(t.ifd = ifd0 ∧ t.id = 0x0132)) :
    parseDateV a (slice F a) none = .ok r'.ex.modifyDate :=
  (owns_modifyDate tb).exact (decodeTiff_nested tb F buffered h cnt r' e W hsmall w hroot hrootW hres).2.1 hsplit h0 hid hpost

/-- **LensSpecification (ExifIFD, 0xa432), end to end** -/
theorem C03_lensInfo_end_to_end (tb : Tables) (F : Bytes) (buffered : Bool) (h : Hdr) (cnt : Nat) (r' : R) (e : Option ErrKind)
    (W : Tag → Prop) (hsmall : F.length < 2 ^ 32)
    (w : World F (4 * 1024 * 1024) (if buffered then bufioSize else scratchSize) W)
    (hroot : DirOK F { off := 0, base := 0, order := h.order, typ := h.firstIfdType, idx := 0 } h.firstIfd cnt (4 * 1024 * 1024)
      (if buffered then bufioSize else scratchSize) (extent F))
    (hrootW : ∀ x, IsEntry F { off := 0, base := 0, order := h.order, typ := h.firstIfdType, idx := 0 } h.firstIfd cnt x ∨
      IsStubEntry F { off := 0, base := 0, order := h.order, typ := h.firstIfdType, idx := 0 } h.firstIfd cnt x → W x)
    (hres : decodeTiff tb F buffered h = .ok (r', e))
    (pre post : List Tag) (a : Tag) (hsplit : r'.parsed = pre ++ a :: post) (h0 : a.ifd = exifIFD) (hid : a.id = 0xa432)
    (hpost : ∀ t ∈ post, ¬(t.ifd = exifIFD ∧ t.id = 0xa432)) :
    parseLensInfoV a (slice F a) none = .ok r'.ex.lensInfo :=
  (owns_lensInfo tb).exact (decodeTiff_nested tb F buffered h cnt r' e W hsmall w hroot hrootW hres).2.1 hsplit h0 hid hpost

/-- **DateTimeOriginal (0x9003), end to end** -/
theorem C03_dateTimeOriginal_end_to_end (tb : Tables) (F : Bytes) (buffered : Bool) (h : Hdr) (cnt : Nat) (r' : R) (e : Option ErrKind)
    (W : Tag → Prop) (hsmall : F.length < 2 ^ 32)
    (w : World F (4 * 1024 * 1024) (if buffered then bufioSize else scratchSize) W)
    (hroot : DirOK F { off := 0, base := 0, order := h.order, typ := h.firstIfdType, idx := 0 } h.firstIfd cnt (4 * 1024 * 1024)
      (if buffered then bufioSize else scratchSize) (extent F))
    (hrootW : ∀ x, IsEntry F { off := 0, base := 0, order := h.order, typ := h.firstIfdType, idx := 0 } h.firstIfd cnt x ∨
      IsStubEntry F { off := 0, base := 0, order := h.order, typ := h.firstIfdType, idx := 0 } h.firstIfd cnt x → W x)
    (hres : decodeTiff tb F buffered h = .ok (r', e))
    (pre post : List Tag) (a : Tag) (hsplit : r'.parsed = pre ++ a :: post) (h0 : a.ifd = exifIFD) (hid : a.id = 0x9003)
    (hpost : ∀ t ∈ post, ¬(t.ifd = exifIFD ∧ t.id = 0x9003)) :
    parseDateV a (slice F a) none = .ok r'.ex.dateTimeOriginal :=
  (owns_dateTimeOriginal tb).exact (decodeTiff_nested tb F buffered h cnt r' e W hsmall w hroot hrootW hres).2.1 hsplit h0 hid hpost

/-- **DateTimeDigitized (0x9004), end to end** -/
theorem C03_createDate_end_to_end (tb : Tables) (F : Bytes) (buffered : Bool) (h : Hdr) (cnt : Nat) (r' : R) (e : Option ErrKind)
    (W : Tag → Prop) (hsmall : F.length < 2 ^ 32)
    (w : World F (4 * 1024 * 1024) (if buffered then bufioSize else scratchSize) W)
    (hroot : DirOK F { off := 0, base := 0, order := h.order, typ := h.firstIfdType, idx := 0 } h.firstIfd cnt (4 * 1024 * 1024)
      (if buffered then bufioSize else scratchSize) (extent F))
    (hrootW : ∀ x, IsEntry F { off := 0, base := 0, order := h.order, typ := h.firstIfdType, idx := 0 } h.firstIfd cnt x ∨
      IsStubEntry F { off := 0, base := 0, order := h.order, typ := h.firstIfdType, idx := 0 } h.firstIfd cnt x → W x)
    (hres : decodeTiff tb F buffered h = .ok (r', e))
    (pre post : List Tag) (a : Tag) (hsplit : r'.parsed = pre ++ a :: post) (h0 : a.ifd = exifIFD) (hid : a.id = 0x9004)
    (hpost : ∀ t ∈ post, ¬(t.ifd = exifIFD ∧ t.id = 0x9004)) :
    parseDateV a (slice F a) none = .ok r'.ex.createDate :=
  (owns_createDate tb).exact (decodeTiff_nested tb F buffered h cnt r' e W hsmall w hroot hrootW hres).2.1 hsplit h0 hid hpost

/-- **SubSecTime (0x9290), end to end** -/
theorem C03_subSec_end_to_end (tb : Tables) (F : Bytes) (buffered : Bool) (h : Hdr) (cnt : Nat) (r' : R) (e : Option ErrKind)
    (W : Tag → Prop) (hsmall : F.length < 2 ^ 32)
    (w : World F (4 * 1024 * 1024) (if buffered then bufioSize else scratchSize) W)
    (hroot : DirOK F { off := 0, base := 0, order := h.order, typ := h.firstIfdType, idx := 0 } h.firstIfd cnt (4 * 1024 * 1024)
      (if buffered then bufioSize else scratchSize) (extent F))
    (hrootW : ∀ x, IsEntry F { off := 0, base := 0, order := h.order, typ := h.firstIfdType, idx := 0 } h.firstIfd cnt x ∨
      IsStubEntry F { off := 0, base := 0, order := h.order, typ := h.firstIfdType, idx := 0 } h.firstIfd cnt x → W x)
    (hres : decodeTiff tb F buffered h = .ok (r', e))
    (pre post : List Tag) (a : Tag) (hsplit : r'.parsed = pre ++ a :: post) (h0 : a.ifd = exifIFD) (hid : a.id = 0x9290)
    (hpost : ∀ t ∈ post, ¬(t.ifd = exifIFD ∧ t.id = 0x9290)) :
    parseSubSecV a (slice F a) none = .ok r'.ex.subSec :=
  (owns_subSec tb).exact (decodeTiff_nested tb F buffered h cnt r' e W hsmall w hroot hrootW hres).2.1 hsplit h0 hid hpost

/-- **SubSecTimeOriginal (0x9291), end to end** -/
theorem C03_subSecOriginal_end_to_end (tb : Tables) (F : Bytes) (buffered : Bool) (h : Hdr) (cnt : Nat) (r' : R) (e : Option ErrKind)
    (W : Tag → Prop) (hsmall : F.length < 2 ^ 32)
    (w : World F (4 * 1024 * 1024) (if buffered then bufioSize else scratchSize) W)
    (hroot : DirOK F { off := 0, base := 0, order := h.order, typ := h.firstIfdType, idx := 0 } h.firstIfd cnt (4 * 1024 * 1024)
      (if buffered then bufioSize else scratchSize) (extent F))
    (hrootW : ∀ x, IsEntry F { off := 0, base := 0, order := h.order, typ := h.firstIfdType, idx := 0 } h.firstIfd cnt x ∨
      IsStubEntry F { off := 0, base := 0, order := h.order, typ := h.firstIfdType, idx := 0 } h.firstIfd cnt x → W x)
    (hres : decodeTiff tb F buffered h = .ok (r', e))
    (pre post : List Tag) (a : Tag) (hsplit : r'.parsed = pre ++ a :: post) (h0 : a.ifd = exifIFD) (hid : a.id = 0x9291)
    (hpost : ∀ t ∈ post, ¬(t.ifd = exifIFD ∧ t.id = 0x9291)) :
    parseSubSecV a (slice F a) none = .ok r'.ex.subSecOriginal :=
  (owns_subSecOriginal tb).exact (decodeTiff_nested tb F buffered h cnt r' e W hsmall w hroot hrootW hres).2.1 hsplit h0 hid hpost

/-- **SubSecTimeDigitized (0x9292), end to end** -/
theorem C03_subSecDigitized_end_to_end (tb : Tables) (F : Bytes) (buffered : Bool) (h : Hdr) (cnt : Nat) (r' : R) (e : Option ErrKind)
    (W : Tag → Prop) (hsmall : F.length < 2 ^ 32)
    (w : World F (4 * 1024 * 1024) (if buffered then bufioSize else scratchSize) W)
    (hroot : DirOK F { off := 0, base := 0, order := h.order, typ := h.firstIfdType, idx := 0 } h.firstIfd cnt (4 * 1024 * 1024)
      (if buffered then bufioSize else scratchSize) (extent F))
    (hrootW : ∀ x, IsEntry F { off := 0, base := 0, order := h.order, typ := h.firstIfdType, idx := 0 } h.firstIfd cnt x ∨
      IsStubEntry F { off := 0, base := 0, order := h.order, typ := h.firstIfdType, idx := 0 } h.firstIfd cnt x → W x)
    (hres : decodeTiff tb F buffered h = .ok (r', e))
    (pre post : List Tag) (a : Tag) (hsplit : r'.parsed = pre ++ a :: post) (h0 : a.ifd = exifIFD) (hid : a.id = 0x9292)
    (hpost : ∀ t ∈ post, ¬(t.ifd = exifIFD ∧ t.id = 0x9292)) :
    parseSubSecV a (slice F a) none = .ok r'.ex.subSecDigitized :=
  (owns_subSecDigitized tb).exact (decodeTiff_nested tb F buffered h cnt r' e W hsmall w hroot hrootW hres).2.1 hsplit h0 hid hpost

/-- **OffsetTime (0x9010), end to end** -/
theorem C03_offsetTime_end_to_end (tb : Tables) (F : Bytes) (buffered : Bool) (h : Hdr) (cnt : Nat) (r' : R) (e : Option ErrKind)
    (W : Tag → Prop) (hsmall : F.length < 2 ^ 32)
    (w : World F (4 * 1024 * 1024) (if buffered then bufioSize else scratchSize) W)
    (hroot : DirOK F { off := 0, base := 0, order := h.order, typ := h.firstIfdType, idx := 0 } h.firstIfd cnt (4 * 1024 * 1024)
      (if buffered then bufioSize else scratchSize) (extent F))
    (hrootW : ∀ x, IsEntry F { off := 0, base := 0, order := h.order, typ := h.firstIfdType, idx := 0 } h.firstIfd cnt x ∨
      IsStubEntry F { off := 0, base := 0, order := h.order, typ := h.firstIfdType, idx := 0 } h.firstIfd cnt x → W x)
    (hres : decodeTiff tb F buffered h = .ok (r', e))
    (pre post : List Tag) (a : Tag) (hsplit : r'.parsed = pre ++ a :: post) (h0 : a.ifd = exifIFD) (hid : a.id = 0x9010)
    (hpost : ∀ t ∈ post, ¬(t.ifd = exifIFD ∧ t.id = 0x9010)) :
    parseOffsetTimeV a (slice F a) none = .ok r'.ex.offsetTime :=
  (owns_offsetTime tb).exact (decodeTiff_nested tb F buffered h cnt r' e W hsmall w hroot hrootW hres).2.1 hsplit h0 hid hpost

/-- **OffsetTimeOriginal (0x9011), end to end** -/
theorem C03_offsetTimeOriginal_end_to_end (tb : Tables) (F : Bytes) (buffered : Bool) (h : Hdr) (cnt : Nat) (r' : R) (e : Option ErrKind)
    (W : Tag → Prop) (hsmall : F.length < 2 ^ 32)
    (w : World F (4 * 1024 * 1024) (if buffered then bufioSize else scratchSize) W)
    (hroot : DirOK F { off := 0, base := 0, order := h.order, typ := h.firstIfdType, idx := 0 } h.firstIfd cnt (4 * 1024 * 1024)
      (if buffered then bufioSize else scratchSize) (extent F))
    (hrootW : ∀ x, IsEntry F { off := 0, base := 0, order := h.order, typ := h.firstIfdType, idx := 0 } h.firstIfd cnt x ∨
      IsStubEntry F { off := 0, base := 0, order := h.order, typ := h.firstIfdType, idx := 0 } h.firstIfd cnt x → W x)
    (hres : decodeTiff tb F buffered h = .ok (r', e))
    (pre post : List Tag) (a : Tag) (hsplit : r'.parsed = pre ++ a :: post) (h0 : a.ifd = exifIFD) (hid : a.id = 0x9011)
    (hpost : ∀ t ∈ post, ¬(t.ifd = exifIFD ∧ t.id = 0x9011)) :
    parseOffsetTimeV a (slice F a) none = .ok r'.ex.offsetTimeOriginal :=
  (owns_offsetTimeOriginal tb).exact (decodeTiff_nested tb F buffered h cnt r' e W hsmall w hroot hrootW hres).2.1 hsplit h0 hid hpost

/-- **OffsetTimeDigitized (0x9012), end to end** -/
theorem C03_offsetTimeDigitized_end_to_end (tb : Tables) (F : Bytes) (buffered : Bool) (h : Hdr) (cnt : Nat) (r' : R) (e : Option ErrKind)
    (W : Tag → Prop) (hsmall : F.length < 2 ^ 32)
    (w : World F (4 * 1024 * 1024) (if buffered then bufioSize else scratchSize) W)
    (hroot : DirOK F { off := 0, base := 0, order := h.order, typ := h.firstIfdType, idx := 0 } h.firstIfd cnt (4 * 1024 * 1024)
      (if buffered then bufioSize else scratchSize) (extent F))
    (hrootW : ∀ x, IsEntry F { off := 0, base := 0, order := h.order, typ := h.firstIfdType, idx := 0 } h.firstIfd cnt x ∨
      IsStubEntry F { off := 0, base := 0, order := h.order, typ := h.firstIfdType, idx := 0 } h.firstIfd cnt x → W x)
    (hres : decodeTiff tb F buffered h = .ok (r', e))
    (pre post : List Tag) (a : Tag) (hsplit : r'.parsed = pre ++ a :: post) (h0 : a.ifd = exifIFD) (hid : a.id = 0x9012)
    (hpost : ∀ t ∈ post, ¬(t.ifd = exifIFD ∧ t.id = 0x9012)) :
    parseOffsetTimeV a (slice F a) none = .ok r'.ex.offsetTimeDigitized :=
  (owns_offsetTimeDigitized tb).exact (decodeTiff_nested tb F buffered h cnt r' e W hsmall w hroot hrootW hres).2.1 hsplit h0 hid hpost

/-- **GPSAltitude (GPS IFD, 6), end to end** -/
theorem C03_gpsAlt_end_to_end (tb : Tables) (F : Bytes) (buffered : Bool) (h : Hdr) (cnt : Nat) (r' : R) (e : Option ErrKind)
    (W : Tag → Prop) (hsmall : F.length < 2 ^ 32)
    (w : World F (4 * 1024 * 1024) (if buffered then bufioSize else scratchSize) W)
    (hroot : DirOK F { off := 0, base := 0, order := h.order, typ := h.firstIfdType, idx := 0 } h.firstIfd cnt (4 * 1024 * 1024)
      (if buffered then bufioSize else scratchSize) (extent F))
    (hrootW : ∀ x, IsEntry F { off := 0, base := 0, order := h.order, typ := h.firstIfdType, idx := 0 } h.firstIfd cnt x ∨
      IsStubEntry F { off := 0, base := 0, order := h.order, typ := h.firstIfdType, idx := 0 } h.firstIfd cnt x → W x)
    (hres : decodeTiff tb F buffered h = .ok (r', e))
    (pre post : List Tag) (a : Tag) (hsplit : r'.parsed = pre ++ a :: post) (h0 : a.ifd = gpsIFD) (hid : a.id = 0x0006)
    (hpost : ∀ t ∈ post, ¬(t.ifd = gpsIFD ∧ t.id = 0x0006)) :
    parseGPSAltV a (slice F a) none = .ok r'.ex.gpsAlt :=
  (owns_gpsAlt tb).exact (decodeTiff_nested tb F buffered h cnt r' e W hsmall w hroot hrootW hres).2.1 hsplit h0 hid hpost

/-- **GPSLatitude (2), end to end** -/
theorem C03_gpsLat_end_to_end (tb : Tables) (F : Bytes) (buffered : Bool) (h : Hdr) (cnt : Nat) (r' : R) (e : Option ErrKind)
    (W : Tag → Prop) (hsmall : F.length < 2 ^ 32)
    (w : World F (4 * 1024 * 1024) (if buffered then bufioSize else scratchSize) W)
    (hroot : DirOK F { off := 0, base := 0, order := h.order, typ := h.firstIfdType, idx := 0 } h.firstIfd cnt (4 * 1024 * 1024)
      (if buffered then bufioSize else scratchSize) (extent F))
    (hrootW : ∀ x, IsEntry F { off := 0, base := 0, order := h.order, typ := h.firstIfdType, idx := 0 } h.firstIfd cnt x ∨
      IsStubEntry F { off := 0, base := 0, order := h.order, typ := h.firstIfdType, idx := 0 } h.firstIfd cnt x → W x)
    (hres : decodeTiff tb F buffered h = .ok (r', e))
    (pre post : List Tag) (a : Tag) (hsplit : r'.parsed = pre ++ a :: post) (h0 : a.ifd = gpsIFD) (hid : a.id = 0x0002)
    (hpost : ∀ t ∈ post, ¬(t.ifd = gpsIFD ∧ t.id = 0x0002)) :
    parseGPSCoordV a (slice F a) none = .ok r'.ex.gpsLat :=
  (owns_gpsLat tb).exact (decodeTiff_nested tb F buffered h cnt r' e W hsmall w hroot hrootW hres).2.1 hsplit h0 hid hpost

/-- **GPSLongitude (4), end to end** -/
theorem C03_gpsLng_end_to_end (tb : Tables) (F : Bytes) (buffered : Bool) (h : Hdr) (cnt : Nat) (r' : R) (e : Option ErrKind)
    (W : Tag → Prop) (hsmall : F.length < 2 ^ 32)
    (w : World F (4 * 1024 * 1024) (if buffered then bufioSize else scratchSize) W)
    (hroot : DirOK F { off := 0, base := 0, order := h.order, typ := h.firstIfdType, idx := 0 } h.firstIfd cnt (4 * 1024 * 1024)
      (if buffered then bufioSize else scratchSize) (extent F))
    (hrootW : ∀ x, IsEntry F { off := 0, base := 0, order := h.order, typ := h.firstIfdType, idx := 0 } h.firstIfd cnt x ∨
      IsStubEntry F { off := 0, base := 0, order := h.order, typ := h.firstIfdType, idx := 0 } h.firstIfd cnt x → W x)
    (hres : decodeTiff tb F buffered h = .ok (r', e))
    (pre post : List Tag) (a : Tag) (hsplit : r'.parsed = pre ++ a :: post) (h0 : a.ifd = gpsIFD) (hid : a.id = 0x0004)
    (hpost : ∀ t ∈ post, ¬(t.ifd = gpsIFD ∧ t.id = 0x0004)) :
    parseGPSCoordV a (slice F a) none = .ok r'.ex.gpsLng :=
  (owns_gpsLng tb).exact (decodeTiff_nested tb F buffered h cnt r' e W hsmall w hroot hrootW hres).2.1 hsplit h0 hid hpost

/-- **GPSTimeStamp (7), end to end** -/
theorem C03_gpsTime_end_to_end (tb : Tables) (F : Bytes) (buffered : Bool) (h : Hdr) (cnt : Nat) (r' : R) (e : Option ErrKind)
    (W : Tag → Prop) (hsmall : F.length < 2 ^ 32)
    (w : World F (4 * 1024 * 1024) (if buffered then bufioSize else scratchSize) W)
    (hroot : DirOK F { off := 0, base := 0, order := h.order, typ := h.firstIfdType, idx := 0 } h.firstIfd cnt (4 * 1024 * 1024)
      (if buffered then bufioSize else scratchSize) (extent F))
    (hrootW : ∀ x, IsEntry F { off := 0, base := 0, order := h.order, typ := h.firstIfdType, idx := 0 } h.firstIfd cnt x ∨
      IsStubEntry F { off := 0, base := 0, order := h.order, typ := h.firstIfdType, idx := 0 } h.firstIfd cnt x → W x)
    (hres : decodeTiff tb F buffered h = .ok (r', e))
    (pre post : List Tag) (a : Tag) (hsplit : r'.parsed = pre ++ a :: post) (h0 : a.ifd = gpsIFD) (hid : a.id = 0x0007)
    (hpost : ∀ t ∈ post, ¬(t.ifd = gpsIFD ∧ t.id = 0x0007)) :
    parseGPSTimeV a (slice F a) none = .ok r'.ex.gpsTime :=
  (owns_gpsTime tb).exact (decodeTiff_nested tb F buffered h cnt r' e W hsmall w hroot hrootW hres).2.1 hsplit h0 hid hpost

/-- **GPSDateStamp (0x1d), end to end** -/
theorem C03_gpsDate_end_to_end (tb : Tables) (F : Bytes) (buffered : Bool) (h : Hdr) (cnt : Nat) (r' : R) (e : Option ErrKind)
    (W : Tag → Prop) (hsmall : F.length < 2 ^ 32)
    (w : World F (4 * 1024 * 1024) (if buffered then bufioSize else scratchSize) W)
    (hroot : DirOK F { off := 0, base := 0, order := h.order, typ := h.firstIfdType, idx := 0 } h.firstIfd cnt (4 * 1024 * 1024)
      (if buffered then bufioSize else scratchSize) (extent F))
    (hrootW : ∀ x, IsEntry F { off := 0, base := 0, order := h.order, typ := h.firstIfdType, idx := 0 } h.firstIfd cnt x ∨
      IsStubEntry F { off := 0, base := 0, order := h.order, typ := h.firstIfdType, idx := 0 } h.firstIfd cnt x → W x)
    (hres : decodeTiff tb F buffered h = .ok (r', e))
    (pre post : List Tag) (a : Tag) (hsplit : r'.parsed = pre ++ a :: post) (h0 : a.ifd = gpsIFD) (hid : a.id = 0x001d)
    (hpost : ∀ t ∈ post, ¬(t.ifd = gpsIFD ∧ t.id = 0x001d)) :
    parseGPSDateV a (slice F a) none = .ok r'.ex.gpsDate :=
  (owns_gpsDate tb).exact (decodeTiff_nested tb F buffered h cnt r' e W hsmall w hroot hrootW hres).2.1 hsplit h0 hid hpost

/-- **GPSAltitudeRef (5), end to end** -/
theorem C03_gpsAltRef_end_to_end (tb : Tables) (F : Bytes) (buffered : Bool) (h : Hdr) (cnt : Nat) (r' : R) (e : Option ErrKind)
    (W : Tag → Prop) (hsmall : F.length < 2 ^ 32)
    (w : World F (4 * 1024 * 1024) (if buffered then bufioSize else scratchSize) W)
    (hroot : DirOK F { off := 0, base := 0, order := h.order, typ := h.firstIfdType, idx := 0 } h.firstIfd cnt (4 * 1024 * 1024)
      (if buffered then bufioSize else scratchSize) (extent F))
    (hrootW : ∀ x, IsEntry F { off := 0, base := 0, order := h.order, typ := h.firstIfdType, idx := 0 } h.firstIfd cnt x ∨
      IsStubEntry F { off := 0, base := 0, order := h.order, typ := h.firstIfdType, idx := 0 } h.firstIfd cnt x → W x)
    (hres : decodeTiff tb F buffered h = .ok (r', e))
    (pre post : List Tag) (a : Tag) (hsplit : r'.parsed = pre ++ a :: post) (h0 : a.ifd = gpsIFD) (hid : a.id = 0x0005)
    (hpost : ∀ t ∈ post, ¬(t.ifd = gpsIFD ∧ t.id = 0x0005)) :
    r'.ex.gpsAltRef = parseGPSRef a :=
  (owns_gpsAltRef tb).exact_eq (decodeTiff_nested tb F buffered h cnt r' e W hsmall w hroot hrootW hres).2.1 hsplit h0 hid hpost rfl

/-- **GPSLatitudeRef (1), end to end** -/
theorem C03_gpsLatRef_end_to_end (tb : Tables) (F : Bytes) (buffered : Bool) (h : Hdr) (cnt : Nat) (r' : R) (e : Option ErrKind)
    (W : Tag → Prop) (hsmall : F.length < 2 ^ 32)
    (w : World F (4 * 1024 * 1024) (if buffered then bufioSize else scratchSize) W)
    (hroot : DirOK F { off := 0, base := 0, order := h.order, typ := h.firstIfdType, idx := 0 } h.firstIfd cnt (4 * 1024 * 1024)
      (if buffered then bufioSize else scratchSize) (extent F))
    (hrootW : ∀ x, IsEntry F { off := 0, base := 0, order := h.order, typ := h.firstIfdType, idx := 0 } h.firstIfd cnt x ∨
      IsStubEntry F { off := 0, base := 0, order := h.order, typ := h.firstIfdType, idx := 0 } h.firstIfd cnt x → W x)
    (hres : decodeTiff tb F buffered h = .ok (r', e))
    (pre post : List Tag) (a : Tag) (hsplit : r'.parsed = pre ++ a :: post) (h0 : a.ifd = gpsIFD) (hid : a.id = 0x0001)
    (hpost : ∀ t ∈ post, ¬(t.ifd = gpsIFD ∧ t.id = 0x0001)) :
    r'.ex.gpsLatRef = parseGPSRef a :=
  (owns_gpsLatRef tb).exact_eq (decodeTiff_nested tb F buffered h cnt r' e W hsmall w hroot hrootW hres).2.1 hsplit h0 hid hpost rfl

/-- **GPSLongitudeRef (3), end to end** -/
theorem C03_gpsLngRef_end_to_end (tb : Tables) (F : Bytes) (buffered : Bool) (h : Hdr) (cnt : Nat) (r' : R) (e : Option ErrKind)
    (W : Tag → Prop) (hsmall : F.length < 2 ^ 32)
    (w : World F (4 * 1024 * 1024) (if buffered then bufioSize else scratchSize) W)
    (hroot : DirOK F { off := 0, base := 0, order := h.order, typ := h.firstIfdType, idx := 0 } h.firstIfd cnt (4 * 1024 * 1024)
      (if buffered then bufioSize else scratchSize) (extent F))
    (hrootW : ∀ x, IsEntry F { off := 0, base := 0, order := h.order, typ := h.firstIfdType, idx := 0 } h.firstIfd cnt x ∨
      IsStubEntry F { off := 0, base := 0, order := h.order, typ := h.firstIfdType, idx := 0 } h.firstIfd cnt x → W x)
    (hres : decodeTiff tb F buffered h = .ok (r', e))
    (pre post : List Tag) (a : Tag) (hsplit : r'.parsed = pre ++ a :: post) (h0 : a.ifd = gpsIFD) (hid : a.id = 0x0003)
    (hpost : ∀ t ∈ post, ¬(t.ifd = gpsIFD ∧ t.id = 0x0003)) :
    r'.ex.gpsLngRef = parseGPSRef a :=
  (owns_gpsLngRef tb).exact_eq (decodeTiff_nested tb F buffered h cnt r' e W hsmall w hroot hrootW hres).2.1 hsplit h0 hid hpost rfl

/-- on the sample file, through the theorem (not by running the model): LensModel is "RF 50mm" -/
example (r' : R) (e : Option ErrKind)
    (hres : decodeTiff sampleTb nF true { order := .little, firstIfd := 8, firstIfdType := ifd0, exifLength := 0, imageType := 0 } = .ok (r', e)) :
    r'.ex.lensModel = [82, 70, 32, 53, 48, 109, 109] := by
  have hp : r'.parsed = [nM, nL] := by
    have : parsedOf (decodeTiff sampleTb nF true { order := .little, firstIfd := 8, firstIfdType := ifd0, exifLength := 0, imageType := 0 }) = [nM, nL] := by
      decide +kernel
    rw [hres] at this; exact this
  have := C03_lensModel_end_to_end sampleTb nF true { order := .little, firstIfd := 8, firstIfdType := ifd0, exifLength := 0, imageType := 0 }
    2 r' e (fun x => x ∈ [nM, nP, nL]) (by decide) nWorld nRootOK
    nRootW
    hres [nM] [] nL (by rw [hp]; rfl) rfl rfl (by decide) (by decide) (by intro t ht; cases ht)
  rw [this]
  decide +kernel

theorem last_occurrence {α} (a : α) : ∀ l : List α, a ∈ l → ∃ pre post, l = pre ++ a :: post ∧ a ∉ post := by
  intro l
  induction l with
  | nil => intro h; cases h
  | cons x l ih =>
    intro h
    by_cases hl : a ∈ l
    · obtain ⟨pre, post, e, hn⟩ := ih hl
      exact ⟨x :: pre, post, by rw [e]; rfl, hn⟩
    · rw [List.mem_cons] at h
      rcases h with rfl | h
      · exact ⟨[], l, rfl, hl⟩
      · exact absurd h hl

/-- **A single-writer field, stated on the directories alone.**  The parse record holds every out-of-line value entry of the
root and nothing that is not an entry of the root or of a directory one of its pointers leads to (`parsed_complete`); so if `a` is
the only entry among those with the writer's key, it is the last tag with that key, and `Owns.exact` applies. -/
theorem Owns.unique {α} {tb : Tables} {f : Rec → α} {d k : Nat} {p : Tag → Bytes → Option ErrKind → Outcome α} (o : Owns tb f d k p)
    {ex0 : Rec} {F : Bytes} {ifd : Ifd} {dir cnt : Nat} {r' : R} (hex : Exact tb ex0 F r')
    (hperm : r'.parsed.Perm (embs F ifd dir cnt ++ (outs F ifd dir cnt).flatMap (parsedOfTag F)))
    (a : Tag) (ha : IsEntry F ifd dir cnt a) (htyp : a.typ ≠ tIfd) (h0 : a.ifd = d) (hid : a.id = k)
    (huniq : ∀ x, (AnyEntry F ifd dir cnt x ∨ ∃ q, IsEntry F ifd dir cnt q ∧ IsPtr q ∧ AnyEntry F q.childIfd q.off (ptrCount F q) x) →
      x.ifd = d → x.id = k → x = a) :
    p a (slice F a) none = .ok (f r'.ex) := by
  obtain ⟨hvals, hprov⟩ := parsed_complete hperm
  obtain ⟨pre, post, hsplit, hnot⟩ := last_occurrence a r'.parsed (hvals a ha htyp)
  refine o.exact hex hsplit h0 hid fun t ht hk => hnot ?_
  exact huniq t (hprov t (by rw [hsplit]; simp [ht])) hk.1 hk.2 ▸ ht

/-- **Software, end to end, stated on the file alone.**  Under the layout hypotheses of `C03_nested_tiff_exact`: if a is
an out-of-line ASCII entry of IFD0 with id 0x0131 and no other entry of IFD0, of the Exif or of the GPS directory carries
that (directory, id) pair, then DecodeTiff returns Software = F[a.off, a.off + a.size) minus trailing NUL / blank padding.
(The ghost parse record is used in the proof only: every out-of-line value tag of the layout is parsed, and nothing is
parsed that is not an entry of one of the three directories.) -/
theorem C03_software_unique (tb : Tables) (F : Bytes) (buffered : Bool) (h : Hdr) (cnt : Nat) (r' : R) (e : Option ErrKind)
    (W : Tag → Prop) (hsmall : F.length < 2 ^ 32)
    (w : World F (4 * 1024 * 1024) (if buffered then bufioSize else scratchSize) W)
    (hroot : DirOK F { off := 0, base := 0, order := h.order, typ := h.firstIfdType, idx := 0 } h.firstIfd cnt (4 * 1024 * 1024)
      (if buffered then bufioSize else scratchSize) (extent F))
    (hrootW : ∀ x, IsEntry F { off := 0, base := 0, order := h.order, typ := h.firstIfdType, idx := 0 } h.firstIfd cnt x ∨
      IsStubEntry F { off := 0, base := 0, order := h.order, typ := h.firstIfdType, idx := 0 } h.firstIfd cnt x → W x)
    (hres : decodeTiff tb F buffered h = .ok (r', e))
    (a : Tag) (ha : IsEntry F { off := 0, base := 0, order := h.order, typ := h.firstIfdType, idx := 0 } h.firstIfd cnt a)
    (h0 : a.ifd = ifd0) (hid : a.id = 0x0131) (hasc : isASCII a = true)
    (huniq : ∀ x, (AnyEntry F { off := 0, base := 0, order := h.order, typ := h.firstIfdType, idx := 0 } h.firstIfd cnt x ∨
        ∃ p, IsEntry F { off := 0, base := 0, order := h.order, typ := h.firstIfdType, idx := 0 } h.firstIfd cnt p ∧ IsPtr p ∧
          AnyEntry F p.childIfd p.off (ptrCount F p) x) → x.ifd = ifd0 → x.id = 0x0131 → x = a) :
    r'.ex.software = trimNUL (slice F a) := by
  obtain ⟨_, hex, hperm⟩ := decodeTiff_nested tb F buffered h cnt r' e W hsmall w hroot hrootW hres
  have htyp : a.typ ≠ tIfd := by
    intro ht
    unfold isASCII at hasc
    rw [ht] at hasc
    revert hasc; decide
  exact Outcome.ok.inj (((owns_software tb).unique hex hperm a ha htyp h0 hid huniq).symm.trans
    (parseStringV_outOfLine ha.choose_spec.2.2 hasc))

end Imeta.Exif
