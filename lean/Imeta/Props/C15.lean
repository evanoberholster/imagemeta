/-
  C15 — Logging is neutral: any log level, same results; the default configuration is silent.

  (1) A generic effect model: a decode is a sequence of state steps and log statements; a log statement evaluates
      its message only when its level is enabled, appends it to the logger's output and never touches the state.
      For that shape of program the result is independent of the level, and at the default level (panic) nothing is
      emitted as long as no call site logs at panic level or above.
  (2) The premises are facts about the source, regenerated on every run (Imeta.Gen.Facts) and compared here with the
      expected lists: the only direct write to stdout is xmp.parseUUID's `fmt.Println`, behind `DebugMode` (false by
      default); nothing else bypasses the logger.
  Whether each real call site has that shape (level guard, side-effect-free arguments) is decided behaviourally by
  `vh run C15`: every entry point at every level against the default, with fds 1 and 2 of the worker measured.
-/
import Imeta.Gen.Facts
namespace Imeta.C15

/-- zerolog levels: trace = 0 … panic = 5 (the default), disabled = 7 -/
abbrev Level := Nat
abbrev panicLevel : Nat := 5

inductive Step (σ : Type) where
  | act (f : σ → σ)
  | log (lvl : Level) (msg : σ → String)

def run {σ} (L : Level) : List (Step σ) → σ → σ × List String
  | [], s => (s, [])
  | .act f :: t, s => run L t (f s)
  | .log lvl msg :: t, s =>
    let r := run L t s
    if L ≤ lvl then (r.1, msg s :: r.2) else r

/-- **Neutrality**: the final state (value and error of the decode) is the same at every level. -/
theorem C15_log_neutral {σ} (L1 L2 : Level) (p : List (Step σ)) (s : σ) : (run L1 p s).1 = (run L2 p s).1 := by
  induction p generalizing s with
  | nil => rfl
  | cons st t ih =>
    cases st with
    | act f => exact ih (f s)
    | log lvl msg =>
      simp only [run]
      split <;> split <;> exact ih s

/-- **Default silence**: with the default level (panic) a program whose statements all log below panic emits nothing. -/
theorem C15_default_silent {σ} (p : List (Step σ)) (s : σ)
    (h : ∀ st ∈ p, ∀ lvl msg, st = Step.log lvl msg → lvl < panicLevel) : (run panicLevel p s).2 = [] := by
  induction p generalizing s with
  | nil => rfl
  | cons st t ih =>
    cases st with
    | act f => exact ih (f s) (fun x hx => h x (by simp [hx]))
    | log lvl msg =>
      have hl := h (.log lvl msg) (by simp) lvl msg rfl
      simp only [run]
      have hl' : ¬ panicLevel ≤ lvl := Nat.not_le_of_gt hl
      rw [if_neg hl']
      exact ih s (fun x hx => h x (by simp [hx]))

/-- **Fact (regenerated)**: the library writes to stdout/stderr directly at exactly one call site, which is behind
`xmp.DebugMode` (false unless the application sets it). A new `fmt.Print*`, `println` or `os.Stdout` use anywhere in
the library packages changes the generated list and breaks this theorem. -/
theorem C15_no_direct_stdout : Imeta.Gen.Facts.printSites = ["xmp/parser.go:parseUUID:fmt.Println"] := rfl

/-- **Fact (regenerated)**: every write to a package-level variable outside `init`: the loggers are written only by
`SetLogger` (configuration), the time-zone cache only under its write lock, the blur-hash tables only by their
initialisers -/
theorem C15_package_variable_writes : Imeta.Gen.Facts.varWrites = [
    "exif2/time.go:getLocation:cacheTimeZone:index-assign:lock",
    "imagehash/blurhash.go:initLinearTable:channelToLinear:index-assign:none",
    "imagehash/blurhash.go:initStaticBlurHashValues:xvalues:index-assign:none",
    "imagehash/blurhash.go:initStaticBlurHashValues:yvalues:index-assign:none",
    "log.go:SetLogger:exif2.Logger:assign",
    "log.go:SetLogger:isobmff.Logger:assign",
    "log.go:SetLogger:jpeg.Logger:assign",
    "log.go:SetLogger:logger:assign"] := rfl

/-- **Fact (regenerated)**: what the log-level guards guard.  Every `if` whose condition asks for the log level
(`logLevel*()` or a variable assigned from it) has no else branch and a body made of logger call chains only, with the
ten exceptions listed here, all of which compute block-local values for the message (`:=` definitions, a method call
on the local event).  In particular no `break`, `continue`, `return`, assignment to an outer variable or other call
sits under a level guard, and no `switch`, `for` or `return` (outside the guard definitions themselves) depends on the
level: this is the premise "a log statement never touches the state" of `C15_log_neutral` for the control flow. -/
theorem C15_level_guards_guard_logging_only : Imeta.Gen.Facts.logGuards = [
    "exif2/log.go:*ifdReader.logTraceFunction:if ir.logLevelTrace():*ast.AssignStmt:details := runtime.FuncForPC(pc)",
    "exif2/log.go:*ifdReader.logTraceFunction:if ir.logLevelTrace():*ast.AssignStmt:pc, _, _, ok := runtime.Caller(2)",
    "exif2/log.go:*ifdReader.logTraceFunction:if ir.logLevelTrace():*ast.IfStmt:if ok && details != nil { ev.Str(\"fn\", details.Name()) }",
    "isobmff/iinf.go:*Reader.readInfe:if logLevelDebug():*ast.AssignStmt:ev := logDebug().Str(\"BoxType\", boxType.String()).Object(\"flags\", flags).Uint16(\"itemID\", ...",
    "isobmff/iinf.go:*Reader.readInfe:if logLevelDebug():*ast.AssignStmt:protectionIndex := bmffEndian.Uint16(buf[i+14 : i+16])",
    "isobmff/iinf.go:*Reader.readInfe:if logLevelDebug():*ast.ExprStmt:ev.Send()",
    "isobmff/iinf.go:*Reader.readInfe:if logLevelDebug():*ast.IfStmt:if itemType == itemTypeMime { ev.Str(\"contentType\", contentType.String()) }",
    "isobmff/log.go:logTraceFunction:if logLevelTrace():*ast.AssignStmt:details := runtime.FuncForPC(pc)",
    "isobmff/log.go:logTraceFunction:if logLevelTrace():*ast.AssignStmt:pc, _, _, ok := runtime.Caller(2)",
    "isobmff/log.go:logTraceFunction:if logLevelTrace():*ast.IfStmt:if ok && details != nil { ev.Str(\"fn\", details.Name()) }"] := rfl

/-- non-vacuity: a two-step program that logs a message derived from the state at debug level -/
example : (run 0 [Step.act (· + 1), Step.log 1 (fun s : Nat => toString s)] 41).1 = (run panicLevel [Step.act (· + 1), Step.log 1 (fun s : Nat => toString s)] 41).1 := rfl

end Imeta.C15
