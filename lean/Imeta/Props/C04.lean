/-
  C04 — A result depends only on the bytes of that call (no cross-call state leakage).

  The reader model (Imeta.Model.Exif) has no pooled state at all: its pending-tag buffer is the live region
  `tag[0:len)` only.  That this is a faithful description of the code — i.e. that the code never reads a slot at or
  beyond `len`, nor scratch bytes it has not just written — is what the correspondence under *poisoned pools*
  establishes (`vh run C04`: pristine vs two poison patterns vs natural history, every entry point).
  Proved here:
    * the repaired accessors `nextTag` / `advanceBuffer`, written over the whole 84-slot array, depend only on the
      live region (any two arrays that agree below `len` give the same answer): the array-level statement of the fix;
    * a zone returned for an OffsetTime tag is named by the six bytes of *this* file's value (the pinned tree returned
      the name cached for the first file with the same offset);
    * for hashes: every slot of the pooled pixel buffer is overwritten before it is read (`Hash.C19_full_overwrite`).
-/
import Imeta.Lemmas.ExifValue
import Imeta.Props.C19
namespace Imeta.Exif
open Imeta

/-- `buffer.nextTag()` over the array (repaired): slot `pos+1` only if it is live -/
def nextTagA (arr : List Tag) (len pos : Nat) : Tag := if pos + 1 < len then arr.getD (pos + 1) default else default

/-- `buffer.advanceBuffer()` over the array (repaired) -/
def advanceA (arr : List Tag) (len pos : Nat) : Tag × Nat :=
  if pos < len then (if pos + 1 < len then arr.getD (pos + 1) default else default, pos + 1) else (default, pos)

theorem getD_take {α} (l : List α) (n i : Nat) (d : α) (h : i < n) : (l.take n).getD i d = l.getD i d := by
  simp [List.getD, h]

/-- **Stale slots are never observed**: whatever an earlier decode left in slots `len … 83`, `nextTag` and
`advanceBuffer` return the same tag. -/
theorem C04_accessors_ignore_stale (a1 a2 : List Tag) (len pos : Nat) (h : a1.take len = a2.take len) :
    nextTagA a1 len pos = nextTagA a2 len pos ∧ advanceA a1 len pos = advanceA a2 len pos := by
  have key : ∀ i, i < len → a1.getD i default = a2.getD i default := by
    intro i hi
    rw [← getD_take a1 len i default hi, ← getD_take a2 len i default hi, h]
  unfold nextTagA advanceA
  constructor
  · split
    · exact key _ (by assumption)
    · rfl
  · split
    · split
      · rw [key _ (by assumption)]
      · rfl
    · rfl

theorem nextTagOff_eq (r : R) : nextTagOff r = (nextTagA r.tags r.tags.length r.pos).off := by
  unfold nextTagOff nextTagA
  cases h : r.tags[r.pos + 1]? with
  | some t => rw [if_pos (List.getElem?_eq_some_iff.mp h).1, List.getD_eq_getElem?_getD, h]; rfl
  | none => rw [if_neg (by have := List.getElem?_eq_none_iff.mp h; omega)]; rfl

theorem parseOffsetTimeV_name (t : Tag) (buf : Bytes) (err : Option ErrKind) :
    Post (parseOffsetTimeV t buf err) fun z => ∀ secs name, z = .fixed secs name → name = (buf.drop 0).take 6 := by
  unfold parseOffsetTimeV
  have no : ∀ {z : Zone}, z = .utc → ∀ secs name, z = .fixed secs name → name = (buf.drop 0).take 6 :=
    fun h _ _ h' => by rw [h] at h'; cases h'
  refine .ite (fun _ => .ite (fun _ => .ok (no rfl)) fun _ => .ite (fun _ => .bind fun c3 _ => .ite (fun _ => ?_) fun _ => .ok (no rfl))
    fun _ => .ok (no rfl)) fun _ => .ok (no rfl)
  refine .bind fun hh _ => .bind fun mm _ => .bind fun nm hnm => .bind fun c0 _ => ?_
  cases slc_eq_ok hnm
  exact .ite (fun _ => .ok fun _ _ h => by cases h; rfl) fun _ => .ite (fun _ => .ok fun _ _ h => by cases h; rfl) fun _ => .ok (no rfl)

/-- **A zone is named by this file**: when OffsetTime yields a fixed zone, its name is bytes 0‥5 of the value read in
this call and its offset is computed from those same bytes. -/
theorem C04_zone_from_this_call (r : R) (t : Tag) (r' : R) (secs : Int) (name : Bytes)
    (h : parseOffsetTime r t = .ok (r', .fixed secs name)) :
    name = ((readTagValue r t).buf.drop 0).take 6 := by
  rw [parseOffsetTime_eq] at h
  obtain ⟨z, hv, h⟩ := omap_eq_ok h
  cases h
  exact parseOffsetTimeV_name t _ _ _ hv secs name rfl

/-- hashes: the pooled pixel buffer is completely rewritten before use (from C19) -/
theorem C04_hash_buffer_overwritten (s : Nat) (mx my : Int) :
    (Hash.grayPlan s mx my).map (·.1) = List.range (s * s) := Hash.C19_full_overwrite s mx my

/-! ## the pooled scratch buffer of the unbuffered reader

`fastRead` without a bufio.Reader reads into the first n bytes of a pooled 1 KiB scratch buffer and hands out that
prefix.  The model `Exif.fastRead` (buffered = false) does not mention the scratch buffer at all; the refinement below
makes it explicit: a reader state with the scratch buffer's content, whatever an earlier decode left there, and a read
that behaves as io.ReadFull does (it overwrites the prefix with what the stream delivers).  The bytes handed out, the
error and the new stream state are those of `Exif.fastRead` and so do not depend on the buffer's previous content; the
buffer's own content afterwards does, but it is never read before it is overwritten.  The tie to the code is the
`rawops` correspondence of `vh run C04` (hook exif2.VerifRawOps: two different pre-fills, and the model). -/

/-- `fastRead` (no bufio.Reader) with the scratch buffer made explicit: (new state, new scratch, bytes handed out, error) -/
def rawRead (r : R) (scratch : Bytes) (n : Nat) : R × Bytes × Bytes × Option ErrKind :=
  if r.exifLength ≠ 0 ∧ r.po + n > r.exifLength then (r, scratch, [], some .dataLength)
  else if n > scratch.length then (r, scratch, [], some .dataLength)
  else if r.rest.length < n then
    -- io.ReadFull copies what there is, then fails; the code hands out nil
    ({ r with rest := [], po := (r.po + r.rest.length) % 2 ^ 32 }, r.rest ++ scratch.drop r.rest.length, [],
      some (if r.rest.length = 0 ∧ n > 0 then .eof else .unexpectedEOF))
  else
    let sc := r.rest.take n ++ scratch.drop n
    ({ r with rest := r.rest.drop n, po := (r.po + n) % 2 ^ 32 }, sc, sc.take n, none)

/-- **Nothing an earlier decode left in the scratch buffer is handed out.**  Whatever the 1 KiB scratch buffer holds, a
read through it returns exactly what the scratch-free model returns — bytes, error, stream and position. -/
theorem C04_scratch_not_observed (r : R) (scratch : Bytes) (n : Nat) (hb : r.buffered = false) (hs : scratch.length = scratchSize) :
    (rawRead r scratch n).1 = (fastRead r n).r ∧ (rawRead r scratch n).2.2.1 = (fastRead r n).buf ∧
    (rawRead r scratch n).2.2.2 = (fastRead r n).err := by
  unfold rawRead fastRead
  rw [hs]
  simp only [hb, Bool.false_eq_true, if_false]
  split
  · exact ⟨rfl, rfl, rfl⟩
  · split
    · exact ⟨rfl, rfl, rfl⟩
    · split
      · exact ⟨rfl, rfl, rfl⟩
      · rename_i h1 h2 h3
        refine ⟨rfl, ?_, rfl⟩
        rw [List.take_append_of_le_length (by simp [List.length_take]; omega), List.take_take, Nat.min_self]

/-- two histories, one result: the same read after any two scratch contents -/
theorem C04_scratch_noninterference (r : R) (s1 s2 : Bytes) (n : Nat) (hb : r.buffered = false)
    (h1 : s1.length = scratchSize) (h2 : s2.length = scratchSize) :
    (rawRead r s1 n).1 = (rawRead r s2 n).1 ∧ (rawRead r s1 n).2.2 = (rawRead r s2 n).2.2 := by
  have a := C04_scratch_not_observed r s1 n hb h1
  have b := C04_scratch_not_observed r s2 n hb h2
  refine ⟨a.1.trans b.1.symm, ?_⟩
  exact Prod.ext (a.2.1.trans b.2.1.symm) (a.2.2.trans b.2.2.symm)

/-- the scratch buffer keeps its size, so the statement applies to every later read as well -/
theorem C04_scratch_size (r : R) (scratch : Bytes) (n : Nat) : (rawRead r scratch n).2.1.length = scratch.length := by
  unfold rawRead
  split
  · rfl
  · split
    · rfl
    · split
      · simp only [List.length_append, List.length_drop]; omega
      · simp only [List.length_append, List.length_take, List.length_drop]; omega

example : (rawRead { rest := [1, 2, 3, 4, 5], po := 0, exifLength := 0, buffered := false } (List.replicate 8 9) 3).2.2.1 = [1, 2, 3] := by decide

end Imeta.Exif
