/-
  C05 — Concurrent calls on independent inputs are race-free and match sequential runs.

  Proved, for every interleaving (induction over the schedule) of any number of threads executing the model of
  `getLocation`:
    * the lock invariant: the reader count equals the number of threads inside a read section, at most one
      thread holds the write lock, and no thread is inside a read section while the write lock is held — so the map
      is never written while another thread reads or writes it (data-race freedom at the level of the protocol);
    * every call that has returned returned the zone for the key it asked for — what it returns when run alone.
  Facts (regenerated): every mention of the cache map lies in a lock region of the right kind; every pooled object
  that is taken is put back by the same function (or handed to an owner with a Close); package-level configuration
  variables are written only by SetLogger / init.
  The Go memory model, sync.Pool and sync.RWMutex are trusted; the -race soak of `vh run C05` exercises real schedules.
-/
import Imeta.Model.Conc
import Imeta.Gen.Facts
namespace Imeta.Conc

theorem countP_set (p : Th → Bool) (l : List Th) (i : Nat) (t t' : Th) (h : l[i]? = some t) :
    countP p (l.set i t') + (if p t then 1 else 0) = countP p l + (if p t' then 1 else 0) := by
  induction l generalizing i with
  | nil => simp at h
  | cons x xs ih =>
    cases i with
    | zero =>
      simp only [List.getElem?_cons_zero, Option.some.injEq] at h
      subst h
      simp only [List.set_cons_zero, countP, List.filter_cons]
      cases p x <;> cases p t' <;> simp
    | succ k =>
      have := ih k h
      simp only [List.set_cons_succ, countP, List.filter_cons] at this ⊢
      cases p x <;> simp <;> omega

theorem countP_pos_of_mem (p : Th → Bool) (l : List Th) (t : Th) (hm : t ∈ l) (hp : p t = true) : 0 < countP p l := by
  exact List.length_pos_of_mem (by simp [List.mem_filter, hm, hp] : t ∈ l.filter p)

/-- **The shape every step has**: thread `i` goes from `t` to `t'` and the lock counters to `r'`, `w'`. The invariant
survives when the counters move with the thread's section (`hr`, `hw`), the write lock stays exclusive (`hw1`, `hx`), and
the thread keeps its key and returns only its own zone. -/
theorem Inv.update {s : St} (h : Inv s) {i : Nat} {t : Th} (hi : s.ths[i]? = some t) (t' : Th) (cache' : List Nat) (r' w' : Nat)
    (hr : r' + (if t.reading then 1 else 0) = s.readers + (if t'.reading then 1 else 0))
    (hw : w' + (if t.writing then 1 else 0) = s.writer + (if t'.writing then 1 else 0))
    (hw1 : w' ≤ 1) (hx : w' ≠ 0 → r' = 0)
    (hk : t'.key = t.key) (hd : t'.pc = .done → t'.result = some t'.key) (hres : t'.result = t.result ∨ t'.result = some t'.key) :
    Inv { cache := cache', readers := r', writer := w', ths := s.ths.set i t' } := by
  obtain ⟨h1, h2, _, _, h4, h5⟩ := h
  have cr := countP_set Th.reading s.ths i t t' hi
  have cw := countP_set Th.writing s.ths i t t' hi
  refine ⟨by dsimp only; omega, by dsimp only; omega, hw1, hx, ?_, ?_⟩
  · intro x hx hdn
    rcases List.mem_or_eq_of_mem_set hx with hx' | rfl
    · exact h4 x hx' hdn
    · exact hd hdn
  · intro x hx
    rcases List.mem_or_eq_of_mem_set hx with hx' | rfl
    · exact h5 x hx'
    · rcases hres with h | h
      · rw [h, hk]; exact h5 t (List.mem_of_getElem? hi)
      · exact Or.inr h

theorem step_inv (s : St) (i : Nat) (h : Inv s) : Inv (step s i) := by
  unfold step
  cases hi : s.ths[i]? with
  | none => exact h
  | some t =>
    -- a blocked or returned thread leaves the state as it is
    have same : Inv { s with ths := s.ths.set i t } := by
      obtain ⟨hl, rfl⟩ := List.getElem?_eq_some_iff.mp hi; rw [List.set_getElem_self hl]; exact h
    have hmem : t ∈ s.ths := List.mem_of_getElem? hi
    obtain ⟨h1, h2, h2b, h3, _, _⟩ := id h
    simp only
    unfold Th.step
    cases hpc : t.pc with
    | start =>
      -- RLock, granted only when no writer holds the lock, which is `hx` for the new state
      simp only
      split
      · exact same
      · exact h.update hi _ _ _ _ (by simp [Th.reading, hpc]) (by simp [Th.writing, hpc]) h2b (by dsimp only; omega) rfl (by simp) (Or.inl rfl)
    | rlocked =>
      exact h.update hi _ _ _ _ (by simp [Th.reading, hpc]) (by simp [Th.writing, hpc]) h2b h3 rfl (by simp) (Or.inl rfl)
    | readDone hit =>
      -- RUnlock: the thread is itself one of the counted readers, so `readers - 1` does not truncate
      have hpos : 0 < countP Th.reading s.ths := countP_pos_of_mem _ _ t hmem (by simp [Th.reading, hpc])
      simp only
      split
      · exact h.update hi _ _ _ _ (by simp [Th.reading, hpc]; omega) (by simp [Th.writing, hpc]) h2b (by dsimp only; omega) rfl (by simp) (Or.inr rfl)
      · exact h.update hi _ _ _ _ (by simp [Th.reading, hpc]; omega) (by simp [Th.writing, hpc]) h2b (by dsimp only; omega) rfl (by simp) (Or.inl rfl)
    | wantLock =>
      -- Lock, granted only with no reader and no writer: `w' = 1` and `r' = 0`
      simp only
      split
      · exact same
      · exact h.update hi _ _ _ _ (by simp [Th.reading, hpc]) (by simp [Th.writing, hpc]; omega) (by dsimp only; omega) (by dsimp only; omega) rfl (by simp) (Or.inl rfl)
    | locked =>
      exact h.update hi _ _ _ _ (by simp [Th.reading, hpc]) (by simp [Th.writing, hpc]) h2b h3 rfl (by simp) (Or.inl rfl)
    | wrote =>
      -- Unlock: the thread is the one counted writer
      have hposw : 0 < countP Th.writing s.ths := countP_pos_of_mem _ _ t hmem (by simp [Th.writing, hpc])
      exact h.update hi _ _ _ _ (by simp [Th.reading, hpc]) (by simp [Th.writing, hpc]; omega) (by dsimp only; omega) (by dsimp only; omega) rfl (by simp) (Or.inr rfl)
    | done => exact same

theorem init_inv (keys cache : List Nat) : Inv (init keys cache) := by
  have hstart : ∀ t ∈ (init keys cache).ths, t.pc = .start ∧ t.result = none := by
    intro t ht
    obtain ⟨k, _, rfl⟩ := List.mem_map.mp ht
    exact ⟨rfl, rfl⟩
  have hc : ∀ p : Th → Bool, (∀ t, t.pc = .start → p t = false) → countP p (init keys cache).ths = 0 := by
    intro p hp
    unfold countP
    rw [List.length_eq_zero_iff, List.filter_eq_nil_iff]
    intro t ht
    rw [hp t (hstart t ht).1]
    exact Bool.false_ne_true
  refine ⟨(hc _ fun t h => by simp [Th.reading, h]).symm, hc _ fun t h => by simp [Th.writing, h], Nat.zero_le 1,
    fun h => absurd rfl h, ?_, ?_⟩
  · intro t ht hd
    rw [(hstart t ht).1] at hd
    cases hd
  · intro t ht
    exact Or.inl (hstart t ht).2

/-- **For every interleaving**: the invariant holds in every reachable state -/
theorem C05_invariant_all_schedules (keys cache : List Nat) (sched : List Nat) : Inv (run (init keys cache) sched) := by
  generalize hs : init keys cache = s0
  have h0 : Inv s0 := hs ▸ init_inv keys cache
  clear hs
  induction sched generalizing s0 with
  | nil => exact h0
  | cons i t ih => exact ih (step s0 i) (step_inv s0 i h0)

/-- **No data race on the map**: in every reachable state, a thread that holds the write lock (it is about to write or
has just written the map) excludes every thread inside a read section and every other writer. -/
theorem C05_no_race (keys cache : List Nat) (sched : List Nat) :
    let s := run (init keys cache) sched
    countP Th.writing s.ths ≤ 1 ∧ (0 < countP Th.writing s.ths → countP Th.reading s.ths = 0) := by
  obtain ⟨h1, h2, h2b, h3, _, _⟩ := C05_invariant_all_schedules keys cache sched
  constructor
  · omega
  · intro hw
    rw [← h1]; exact h3 (by omega)

/-- **Each call returns what it returns when run alone**: the zone for the key it asked for, under every interleaving -/
theorem C05_result_is_sequential (keys cache : List Nat) (sched : List Nat) :
    ∀ t ∈ (run (init keys cache) sched).ths, t.pc = .done → t.result = some t.key :=
  (C05_invariant_all_schedules keys cache sched).2.2.2.2.1

/- Fact strings (Gen/Facts, extracted from the Go source by harness/cmd/goast2lean): `file:function:region` for every mention
of the cache map `cacheTimeZone`, `region` being the lock region the mention sits in (`lock`, `rlock`, or `none` outside
any); `file:function:pool:put=b` for every `pool.Get`, `b` saying whether the same function also calls `pool.Put`. -/
/-- **Facts (regenerated)**: the cache map is mentioned only inside lock regions; pooled objects are put back, or
(`put=false`) handed to an owner whose `Close` puts them back -/
theorem C05_lock_regions : Imeta.Gen.Facts.lockFacts = ["exif2/time.go:getLocation:lock", "exif2/time.go:getLocation:rlock"] := rfl

theorem C05_pool_ownership : Imeta.Gen.Facts.poolFacts = [
    "exif2/reader.go:NewIfdReader:bufferPool:put=false",
    "imagehash/imagehash.go:NewPHash256:pixelsPool256:put=true",
    "imagehash/imagehash.go:NewPHash64:pixelsPool64:put=true",
    "imagehash/imagehash32.go:NewPHash256Alt:pixelsPool256Alt:put=true",
    "imagehash/imagehash32.go:NewPHash64Alt:pixelsPool32:put=true",
    "imagemeta.go:Decode:readerPool:put=true",
    "imagemeta.go:DecodeCR3:readerPool:put=true",
    "imagemeta.go:DecodeJPEG:readerPool:put=true",
    "imagemeta.go:DecodeTiff:readerPool:put=true",
    "imagemeta.go:PreviewCR3:readerPool:put=true",
    "isobmff/reader.go:NewReader:readerPool:put=false",
    "jpeg/jpeg.go:ScanJPEG:bufferPool:put=true"] := rfl

/-- non-vacuity: two threads asking for the same uncached key, interleaved so that both miss -/
example : ((run (init [7, 7] []) [0, 1, 0, 1, 0, 1, 0, 0, 0, 1, 1, 1]).ths.map (·.result)) = [some 7, some 7] := by decide

end Imeta.Conc
