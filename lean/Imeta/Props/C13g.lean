/-
  C13 — bytes before the root element are skipped (Lemmas/XmpPacket.lean).
-/
import Imeta.Lemmas.XmpPacket
import Imeta.Props.C13f
namespace Imeta.Props.C13
open Imeta Imeta.Xmp

/-- **Bytes before the root element are skipped.**  The stream holds any number of stretches `g <` (bytes without '<', then a
'<' that is not followed by `x:xmpmeta`: an xpacket processing instruction, other tags, arbitrary bytes; each stretch
shorter than the 1538-byte buffer), then `g <x:xmpmeta A >` with A free of '>' (the namespace attributes), then R.  The
root search returns the root start tag and leaves the stream exactly at R; nothing before the root element influences
what is parsed after it. -/
theorem C13_leading_bytes_skipped (gs : List Bytes) (g A R : Bytes) (f : Nat) (st : St)
    (hr : st.rest = serJ gs (g ++ 60 :: (rootName ++ A ++ 62 :: R)))
    (hj : JunkOK gs (g ++ 60 :: (rootName ++ A ++ 62 :: R)))
    (hg : ∀ x ∈ g, (x == 60) = false) (hlen : g.length < W) (hA : ∀ x ∈ A, (x == 62) = false) (hAlen : 9 + A.length < W) :
    readRootTag (f + 1 + gs.length) st = (.ok { t := .start, self := rootProp }, { st with rest := R }) :=
  readRootTag_exact gs g A R f st hr hj hg hlen hA hAlen

/-! non-vacuity: `junk<?xpacket begin="" id="W5M0"?>\n<x:xmpmeta xmlns:x="adobe:ns:meta/"><rdf:RDF>` -/
def jHead : Bytes := ("junk").toUTF8.toList
def jPI : Bytes := ("?xpacket begin=\"\" id=\"W5M0\"?>\n").toUTF8.toList
def jAttrs : Bytes := (" xmlns:x=\"adobe:ns:meta/\"").toUTF8.toList
def jRest : Bytes := ("<rdf:RDF>").toUTF8.toList
example : serJ [jHead] (jPI ++ 60 :: (rootName ++ jAttrs ++ 62 :: jRest)) =
    ("junk<?xpacket begin=\"\" id=\"W5M0\"?>\n<x:xmpmeta xmlns:x=\"adobe:ns:meta/\"><rdf:RDF>").toUTF8.toList := by
  rewrite [jHead, jPI, jAttrs, jRest, utf8_toList, utf8_toList, utf8_toList, utf8_toList, utf8_toList]; decide +kernel
example : JunkOK [jHead] (jPI ++ 60 :: (rootName ++ jAttrs ++ 62 :: jRest)) ∧ (∀ x ∈ jPI, (x == 60) = false) ∧ jPI.length < W ∧
    (∀ x ∈ jAttrs, (x == 62) = false) ∧ 9 + jAttrs.length < W := by
  refine ⟨⟨by decide +kernel, by decide +kernel, by decide +kernel, by decide +kernel, trivial⟩, by decide +kernel, by decide +kernel, by decide +kernel, by decide +kernel⟩
example : (readRootTag 5 { rest := ("junk<?xpacket begin=\"\" id=\"W5M0\"?>\n<x:xmpmeta xmlns:x=\"adobe:ns:meta/\"><rdf:RDF>").toUTF8.toList, a := false, toks := [] }).2.rest = jRest := by
  rewrite [jRest, utf8_toList, utf8_toList]; decide +kernel

end Imeta.Props.C13
