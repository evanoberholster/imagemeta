/-
  C07 — Byte order is transparent: little- and big-endian encodings decode identically.

  Property theorems about the reader model Imeta.Model.Exif (tied to /repo by `vh run C03/C07`).
  The statements are for an arbitrary byte order `o` (little, big, and the "unknown" value the code treats as
  little), so "II = MM" follows by instantiating `o` twice.
-/
import Imeta.Lemmas.Exif
namespace Imeta.Exif
open Imeta

/-- **The offset slot survives re-serialisation**: whatever 4 bytes sit in the value/offset slot of a directory
entry, decoding them with the directory's byte order (`tagFromBuffer`) and writing them back with the same order
(`Tag.EmbeddedValue`) returns exactly those bytes — for every byte order. This is why embedded SHORT / BYTE / ASCII
values, which sit in different bytes of the slot per byte order, decode identically. -/
theorem C07_slot_roundtrip (o : ByteOrder) (slot : Bytes) (h : slot.length = 4) (t : Tag)
    (ht : t.off = o.uint slot) (ho : t.order = o) : embedded t = slot := by
  unfold embedded
  rw [ht, ho, ← h]
  exact put_uint o slot

/-- **A directory entry decodes to the same tag in either byte order**: for every id, type, count and offset,
the 12 bytes written with order `o` are read back (with the same `o`) as exactly that id / type / count / offset. -/
theorem C07_entry_decodes (o : ByteOrder) (ifdTyp idx id ty cnt off : Nat)
    (hid : id < 65536) (hty : ty < 65536) (hc : cnt < 2 ^ 32) (ho : off < 2 ^ 32) :
    tagFromBuffer { off := 0, base := 0, order := o, typ := ifdTyp, idx := idx }
        (o.put 2 id ++ o.put 2 ty ++ o.put 4 cnt ++ o.put 4 off) =
      .ok (if typeValid (tagIsIfd ifdTyp id (ty % 256)) then
            some { id := id, typ := tagIsIfd ifdTyp id (ty % 256), count := cnt, off := off, ifd := ifdTyp, idx := idx, order := o }
           else none) := by
  have l1 := ByteOrder.put_length o 2 id; have l2 := ByteOrder.put_length o 2 ty
  have l3 := ByteOrder.put_length o 4 cnt; have l4 := ByteOrder.put_length o 4 off
  generalize hb : o.put 2 id ++ o.put 2 ty ++ o.put 4 cnt ++ o.put 4 off = b
  have r0 := rd16_seam o [] (o.put 2 id) (o.put 2 ty ++ o.put 4 cnt ++ o.put 4 off) (t := b) (lo := 0) (by simp [← hb]) rfl l1
  have r1 := rd16_seam o (o.put 2 id) (o.put 2 ty) (o.put 4 cnt ++ o.put 4 off) (t := b) (lo := 2) (by simp [← hb]) l1.symm l2
  have r2 := rd32_seam o (o.put 2 id ++ o.put 2 ty) (o.put 4 cnt) (o.put 4 off) (t := b) (lo := 4) (by simp [← hb]) (by simp [l1, l2]) l3
  have r3 := rd32_seam o (o.put 2 id ++ o.put 2 ty ++ o.put 4 cnt) (o.put 4 off) [] (t := b) (lo := 8) (by simp [← hb]) (by simp [l1, l2, l3]) l4
  rw [uint_put_of_lt o 2 id (by simpa using hid)] at r0
  rw [uint_put_of_lt o 2 ty (by simpa using hty)] at r1
  rw [uint_put_of_lt o 4 cnt (by simpa using hc)] at r2
  rw [uint_put_of_lt o 4 off (by simpa using ho)] at r3
  unfold tagFromBuffer
  simp only [bind, Outcome.bind, r0, r1, r2, r3, Nat.add_zero, Nat.mod_eq_of_lt ho]
  split <;> rfl

/-- **Embedded SHORT**: the value a writer stores left-justified in the slot (`put 2 v ++ [0,0]`) is the value
`ParseUint16` returns, whatever the byte order. -/
theorem C07_embedded_short (o : ByteOrder) (v : Nat) (hv : v < 65536) (t : Tag)
    (ht : t.off = o.uint (o.put 2 v ++ [0, 0])) (ho : t.order = o) (hty : t.typ = tShort) (hc : t.count = 1) :
    parseUint16 t = .ok v := by
  have hl : (o.put 2 v ++ [0, 0]).length = 4 := by simp [ByteOrder.put_length]
  have hemb := C07_slot_roundtrip o _ hl t ht ho
  have hsz : t.size = 2 := by simp [Tag.size, hty, hc, typeSize, tShort]
  have hE : t.isEmbedded = true := by simp [Tag.isEmbedded, hsz, hty, tShort, tIfd]
  unfold parseUint16
  simp only [hE, hty, Bool.true_and, BEq.rfl, if_true, hemb, ho]
  unfold u16
  rw [if_neg (by omega)]
  rw [List.take_left' (ByteOrder.put_length o 2 v), uint_put_of_lt o 2 v (by simpa using hv)]

/-- **Embedded ASCII / BYTE**: the bytes handed to the string trimming are the first `size` bytes of the slot as
they stand in the file — no byte-order dependence at all. -/
theorem C07_embedded_bytes (o : ByteOrder) (slot : Bytes) (h : slot.length = 4) (t : Tag) (r : R)
    (ht : t.off = o.uint slot) (ho : t.order = o) (hE : t.isEmbedded = true) (strict : Bool) :
    parseBytes r t strict = .ok (r, trimNUL (slot.take t.size)) := by
  have hemb := C07_slot_roundtrip o slot h t ht ho
  unfold parseBytes
  simp only [hE, if_true, hemb]

/-- non-vacuity: Orientation = 6 as an embedded SHORT, little- and big-endian slots -/
example : parseUint16 { off := 6, count := 1, id := 0x0112, typ := tShort, ifd := ifd0, idx := 0, order := .little } = .ok 6 := by decide
example : parseUint16 { off := 0x00060000, count := 1, id := 0x0112, typ := tShort, ifd := ifd0, idx := 0, order := .big } = .ok 6 := by decide

end Imeta.Exif
