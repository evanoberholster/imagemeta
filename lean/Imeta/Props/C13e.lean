/-
  C13 — a whole rdf:Description: attributes and simple child elements together (Lemmas/XmpTree.lean).
-/
import Imeta.Props.C13d
namespace Imeta.Props.C13
open Imeta Imeta.Xmp

/-- **A Description with attributes and child elements is reported exactly.**  `ws0 <D attrs> wsV children ws2 </D>`: D a
property that is neither an array nor the root (rdf:Description); `attrs` a non-empty list of attributes `ns:name=q v q`,
each behind at least one white-space byte, either quote (`Attr.OK`); `children` a list of simple elements
`<ns:name>v</ns:name>` with any white space between them (`Elem.OK`); any white space before the stop tag.  One round of
readTag hands the parser layer exactly one token per attribute with a non-empty value and then one token per element —
parent D, property `identify ns name`, exactly the value — in document order, consumes exactly the element and goes on
behind it.  With `C13_attribute_element_same_tokens` this is the record-level statement for one Description: whichever
form the writer chose for each simple property, the value parsers receive the same (parent, property, value).  The
hypothesis `hla` is not needed: `readTag_wrap`, of which this is an instance, covers a tag without attributes. -/
theorem C13_description_exact (parent : Tag) (st : St) (D : Name) (ws0 wsV X ws2 R : Bytes)
    (la : List (Bytes × Attr)) (le : List (Bytes × Elem)) (f : Nat)
    (hr : st.rest = ws0 ++ 60 :: ((D.n0 :: D.ns) ++ 58 :: (D.name ++ (ser la ++ 62 :: (wsV ++ 60 :: X)))))
    (hX : 60 :: X = serE le ++ (ws2 ++ D.closeT R))
    (hD : D.OK) (hDseq : (D.prop == rdfSeq || D.prop == rdfAlt || D.prop == rdfBag) = false) (hDroot : (D.prop == rootProp) = false)
    (hws0 : ∀ x ∈ ws0, (x == 60) = false) (hwin0 : ws0.length + 128 ≤ W)
    (hla : la ≠ []) (hoka : ∀ p ∈ la, (∀ x ∈ p.1, isWs x = true) ∧ p.1 ≠ [] ∧ p.2.OK)
    (hwsV : ∀ x ∈ wsV, isWs x = true) (hwinV : wsV.length < 512)
    (hoke : ∀ p ∈ le, (∀ x ∈ p.1, (x == 60) = false) ∧ p.1.length + 128 ≤ W ∧ p.2.OK)
    (hws2 : ∀ x ∈ ws2, (x == 60) = false) (hwin2 : ws2.length + 128 ≤ W) :
    readTag (f + 3 + le.length) parent st =
      readTag (f + 2 + le.length) parent { rest := R, a := false, toks := pushE D.prop le (pushAll D.prop la st.toks) } := by
  rw [show f + 3 + le.length = f + 2 + le.length + 1 by omega]
  exact (elements_walk { t := .start, parent := parent.self, self := D.prop } le hoke).wrap (Nat.le_refl 1) (fun T => by simp)
    la wsV ws2 ⟨hD, hDseq, hDroot⟩ hoka hwsV hwinV ⟨hws2, hwin2⟩ _ st ws0 R (by omega) (by rw [hr, hX]; rfl) ⟨hws0, hwin0⟩ ⟨X, hX⟩

/-! non-vacuity: `<rdf:Description tiff:Make="Canon">\n <tiff:Model>EOS</tiff:Model>\n</rdf:Description>` -/
def nDesc : Name := { n0 := 114, ns := [100, 102], name := (s "Description") }
example : nDesc.OK ∧ (nDesc.prop == rdfSeq || nDesc.prop == rdfAlt || nDesc.prop == rdfBag) = false ∧ (nDesc.prop == rootProp) = false := by
  refine ⟨⟨by decide, by decide, by decide +kernel, by decide +kernel⟩, by decide +kernel, by decide +kernel⟩
example : [] ++ 60 :: ((nDesc.n0 :: nDesc.ns) ++ 58 :: (nDesc.name ++ (ser [([32], aMake)] ++ 62 :: ([10, 32] ++ (serE [([], eModel)] ++ ([10] ++ nDesc.closeT [])))))) =
    ("<rdf:Description tiff:Make=\"Canon\">\n <tiff:Model>EOS</tiff:Model>\n</rdf:Description>").toUTF8.toList := by rewrite [utf8_toList]; decide +kernel
/-- the model run on those bytes: the attribute token, then the element token -/
example : ((readTag 6 {} { rest := ("<rdf:Description tiff:Make=\"Canon\">\n <tiff:Model>EOS</tiff:Model>\n</rdf:Description></rdf:RDF>").toUTF8.toList, a := false, toks := [] }).2.toks.reverse.map (fun t => (t.pt, t.parent == nDesc.prop, t.self, t.val))) =
    [(1, true, aMake.prop, [67, 97, 110, 111, 110]), (2, true, eModel.prop, [69, 79, 83])] := by rewrite [utf8_toList]; decide +kernel

end Imeta.Props.C13
