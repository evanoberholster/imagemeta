/-
  C16 — Value types survive text/JSON/MessagePack round trips; their parsers are total.

  Models: Imeta.Model.Codec (hand-written, tied to /repo by the
  exhaustive correspondence `vh run C16`) and Imeta.Gen.Codec (tables and loop-free helpers
  regenerated from /repo on every run).
-/
import Imeta.Lemmas.Codec
import Imeta.Gen.Codec
import Imeta.Gen.Msgp
namespace Imeta.C16
open Imeta Imeta.Codec

private theorem text_shape (c : UInt8) (hc : c ≠ 47) (ds rest : Bytes) (hd : ds.all isDigit = true) :
    idxSlash (c :: (ds ++ 47 :: rest)) = some (ds.length + 1) := by
  have : (c == 47) = false := by simpa using hc
  simp [idxSlash, this, idxSlash_digits_slash ds rest hd]

/-- what the decoder computes for "<sign><digits>/<digits>" -/
private def ebCombine (c : UInt8) (hi lo : Nat) : Int :=
  let n : Int := if c == 43 then wrap i16 hi else if c == 45 then wrap i16 (wrap i16 hi * -1) else 0
  wrap i16 (wrap i16 (n * 256) + wrap i16 lo)

private theorem eb_parse (prev : Int) (c : UInt8) (hc : c = 43 ∨ c = 45) (ds ls : Bytes) (hd : ds.all isDigit = true) :
    ebUnmarshal prev (c :: (ds ++ 47 :: ls)) = .ok (ebCombine c (parseUint ds) (parseUint ls)) := by
  have hc47 : c ≠ 47 := by rcases hc with h | h <;> subst h <;> decide
  have hc48 : (c == 48) = false := by rcases hc with h | h <;> subst h <;> decide
  have s1 := slice_seam [c] ds (47 :: ls) (t := c :: (ds ++ 47 :: ls)) rfl (lo := 1) (hi := ds.length + 1) rfl (by omega)
  have s2 := slice_seam (c :: (ds ++ [47])) ls [] (t := c :: (ds ++ 47 :: ls)) (by simp) (lo := ds.length + 1 + 1)
    (hi := (c :: (ds ++ 47 :: ls)).length) (by simp) (by simp; omega)
  unfold ebUnmarshal
  simp only [bind, at!, List.getElem?_cons_zero, Outcome.bind, hc48, Bool.false_eq_true, if_false, text_shape c hc47 ds ls hd, s1, s2]
  rcases hc with h | h <;> subst h <;> simp [ebCombine]

private theorem ebMarshal_shape (v : Int) (hv : v ≠ 0) :
    ebMarshal v = (if v > 0 then 43 else 45) :: (decDigits 25 (v / 256).natAbs ++ 47 :: decDigits 25 (v % 256).natAbs) := by
  unfold ebMarshal
  rw [if_neg hv, gitoa_eq, gitoa_eq, if_neg (by omega : ¬ v % 256 < 0)]
  by_cases hp : v > 0
  · rw [if_pos hp, if_pos hp, if_neg (by omega : ¬ v / 256 < 0)]; simp
  · rw [if_neg hp, if_neg hp, if_pos (by omega : v / 256 < 0)]; simp

/-- **Round trip, every non-zero code.** For every `int16` value `v ≠ 0` and whatever the receiver
held before, `UnmarshalText(MarshalText(v))` stores exactly `v`, without panic. -/
theorem C16_exposureBias_roundtrip (v prev : Int) (hlo : -32768 ≤ v) (hhi : v ≤ 32767) (hv : v ≠ 0) :
    ebUnmarshal prev (ebMarshal v) = .ok v := by
  rw [ebMarshal_shape v hv, eb_parse prev _ (by split <;> simp) _ _ (decDigits_spec 25 _ (by omega)).2,
    parseUint_dec _ (by omega), parseUint_dec _ (by omega)]
  refine congrArg Outcome.ok ?_
  unfold ebCombine
  by_cases hp : v > 0
  · simp only [if_pos hp, show ((43 : UInt8) == 43) = true by decide, if_true]
    rw [wrap_i16 ((v / 256).natAbs : Int) (by omega) (by omega), wrap_i16 (_ * 256) (by omega) (by omega),
      wrap_i16 ((v % 256).natAbs : Int) (by omega) (by omega), wrap_i16 _ (by omega) (by omega)]
    omega
  · simp only [if_neg hp, show ((45 : UInt8) == 43) = false by decide, show ((45 : UInt8) == 45) = true by decide, if_true,
      Bool.false_eq_true, if_false]
    rw [wrap_i16 ((v / 256).natAbs : Int) (by omega) (by omega), wrap_i16 (_ * -1) (by omega) (by omega),
      wrap_i16 (_ * 256) (by omega) (by omega), wrap_i16 ((v % 256).natAbs : Int) (by omega) (by omega), wrap_i16 _ (by omega) (by omega)]
    omega

/-- The zero code prints as "0/0"; reading it back leaves the receiver as it was, so a fresh
(zero) receiver round-trips. (A receiver holding another value keeps it: recorded in DESIGN.md
as an interpretation — the property's `Unmarshal` is into a fresh value, as `encoding/json` does
for a new struct.) -/
theorem C16_exposureBias_zero (prev : Int) : ebUnmarshal prev (ebMarshal 0) = .ok prev := by
  simp [ebMarshal, ebUnmarshal, at!, Outcome.bind, bind]

/-- `Marshal(Unmarshal(Marshal(v))) == Marshal(v)` for every one of the 2^16 codes (fresh receiver). -/
theorem C16_exposureBias_idempotent (v : Int) (hlo : -32768 ≤ v) (hhi : v ≤ 32767) :
    (ebUnmarshal 0 (ebMarshal v)).bind (fun w => .ok (ebMarshal w)) = .ok (ebMarshal v) := by
  by_cases hv : v = 0
  · subst hv; rw [C16_exposureBias_zero]; rfl
  · rw [C16_exposureBias_roundtrip v 0 hlo hhi hv]; rfl

private theorem bind_notPanic {α β} (x : G α) (f : α → G β) (hx : x.isPanic = false)
    (hf : ∀ a, (f a).isPanic = false) : (x.bind f).isPanic = false := by
  cases x with
  | ok a => exact hf a
  | _ => exact hx

/-- **Totality.** `ExposureBias.UnmarshalText` returns for every byte string and every receiver
state: no index or slice expression can go out of range. -/
theorem C16_exposureBias_total (prev : Int) (t : Bytes) : (ebUnmarshal prev t).isPanic = false := by
  unfold ebUnmarshal
  split
  · rfl
  · -- the text is not empty: text[0] is in range
    rename_i hl
    have h0 : 0 < t.length := by omega
    simp only [bind, at_ok t 0 h0, Outcome.bind]
    split
    · rfl
    · cases hi : idxSlash t with
      | none => rfl
      | some i =>
        -- the '/' found at i is below the length, so text[:i] and text[i+1:] are in range; text[1:i], taken after a
        -- sign, needs 1 ≤ i
        have hlt := idxSlash_lt t i hi
        have hat := idxSlash_at t i hi
        have s0 := slice_ok t 0 i (by omega) (by omega)
        have s2 := slice_ok t (i + 1) t.length (by omega) (by omega)
        simp only [s0, s2]
        by_cases h1 : 1 ≤ i
        · have s1 := slice_ok t 1 i h1 (by omega)
          simp only [s1]
          repeat' split
          all_goals simp [Outcome.isPanic]
        · -- the '/' is the first byte: then text[0] is neither '+' nor '-'
          have hi0 : i = 0 := by omega
          subst hi0
          have : t[0] = 47 := by
            have := hat; rw [List.getElem?_eq_getElem h0] at this; simpa using this
          have e43 : (t[0] == 43) = false := by rw [this]; decide
          have e45 : (t[0] == 45) = false := by rw [this]; decide
          simp only [e43, e45, Bool.false_eq_true, if_false, Outcome.isPanic]

theorem C16_aperture_total (t : Bytes) : (apertureParse t).isPanic = false := by
  unfold apertureParse
  cases hi : idxSlash t with
  | none => rfl
  | some i =>
    have hlt := idxSlash_lt t i hi
    simp only [bind, slice_ok t 0 i (by omega) (by omega), slice_ok t (i + 1) t.length (by omega) (by omega), Outcome.bind]
    split <;> rfl

theorem C16_focalLength_total (t : Bytes) : (focalStrip t).isPanic = false := by
  unfold focalStrip
  split
  · rfl
  · split
    · rename_i h1 h2
      simp only [bind, at_ok t (t.length - 1) (by omega), at_ok t (t.length - 2) (by omega), Outcome.bind]
      split
      · simp [slice_ok t 0 (t.length - 2) (by omega) (by omega), Outcome.isPanic]
      · rfl
    · rfl

/-- the suffix is removed when present: `strip (s ++ "mm") = s` -/
theorem C16_focalLength_strip (s : Bytes) :
    focalStrip (s ++ [109, 109]) = .ok (some s) := by
  have hl : (s ++ [109, 109]).length = s.length + 2 := by simp
  have a1 := at_seam (t := s ++ [109, 109]) (s ++ [109]) 109 [] (by simp) (i := s.length + 2 - 1) (by simp)
  have a2 := at_seam (t := s ++ [109, 109]) s 109 [109] rfl (i := s.length + 2 - 2) (by simp)
  have s0 := slice_seam (t := s ++ [109, 109]) [] s [109, 109] rfl (lo := 0) (hi := s.length + 2 - 2) rfl (by simp)
  unfold focalStrip
  simp only [hl, show s.length + 2 ≠ 0 by omega, if_false, show s.length + 2 > 1 by omega, if_true, bind, a1, a2, s0,
    Outcome.bind, beq_self_eq_true, Bool.and_self]

/-! ## enumerations with a text form: every documented member round-trips -/

open Imeta.Gen.Codec in
/-- MeteringMode: documented members 0..6 and 255 -/
theorem C16_meteringMode_roundtrip :
    ∀ v ∈ [(0 : Int), 1, 2, 3, 4, 5, 6, 255],
      (meta_MeteringMode_String v).bind (fun s => .ok (enumUnmarshal meta_mapStringMeteringMode_data s)) = .ok v := by
  decide +kernel

open Imeta.Gen.Codec in
theorem C16_exposureMode_roundtrip :
    ∀ v ∈ [(0 : Int), 1, 2],
      (meta_ExposureMode_String v).bind (fun s => .ok (enumUnmarshal meta_mapStringExposureMode_data s)) = .ok v := by
  decide +kernel

open Imeta.Gen.Codec in
theorem C16_exposureProgram_roundtrip :
    ∀ v ∈ [(0 : Int), 1, 2, 3, 4, 5, 6, 7, 8, 9],
      (meta_ExposureProgram_String v).bind (fun s => .ok (enumUnmarshal meta_mapStringExposureProgram_data s)) = .ok v := by
  decide +kernel

open Imeta.Gen.Codec in
/-- ImageType: all 24 documented members, text form (content type) -/
theorem C16_imageType_roundtrip :
    ∀ v ∈ List.range 24,
      (imagetype_ImageType_String (v : Int)).bind imagetype_FromString = .ok (v : Int) := by
  decide +kernel

/-- `UnmarshalText` never panics: every index it uses is below the length it has just tested. -/
theorem C16_uuid_total (t : Bytes) : (uuidUnmarshal t).isPanic = false := by
  -- decodeCanonical on 36 bytes: the dashes at 8, 13, 18, 23 and the five groups up to 36 are in range
  have canon : ∀ s : Bytes, s.length = 36 → (uuidCanonical s).isPanic = false := by
    intro s hs
    unfold uuidCanonical
    simp only [bind, at_ok s 8 (by omega), at_ok s 13 (by omega), at_ok s 18 (by omega), at_ok s 23 (by omega), Outcome.bind]
    split
    · rfl
    · simp only [slice_ok s 0 8 (by omega) (by omega), slice_ok s 9 13 (by omega) (by omega),
        slice_ok s 14 18 (by omega) (by omega), slice_ok s 19 23 (by omega) (by omega),
        slice_ok s 24 36 (by omega) (by omega)]
      split <;> rfl
  have hashl : ∀ s : Bytes, (uuidHashLike s).isPanic = false := by
    intro s; unfold uuidHashLike; split <;> rfl
  -- what is inside braces or after the prefix: 32 or 36 bytes, anything else an error
  have plain : ∀ s : Bytes, (uuidPlain s).isPanic = false := by
    intro s; unfold uuidPlain
    split
    · exact hashl s
    · split
      · rename_i h; exact canon s h
      · rfl
  -- by length: 32 hex digits; 36 canonical; 34 or 38 in braces (first and last byte, then the inside); 41 or 45 after
  -- "urn:uuid:" (nine bytes, then the rest)
  unfold uuidUnmarshal
  simp only
  split
  · exact hashl t
  · split
    · rename_i h; exact canon t h
    · split
      · rename_i h
        simp only [bind, at_ok t 0 (by omega), at_ok t (t.length - 1) (by omega), Outcome.bind]
        split
        · rfl
        · simp only [slice_ok t 1 (t.length - 1) (by omega) (by omega)]; exact plain _
      · split
        · rename_i h
          simp only [bind, slice_ok t 0 9 (by omega) (by omega), Outcome.bind]
          split
          · rfl
          · simp only [slice_ok t 9 t.length (by omega) (by omega)]; exact plain _
        · rfl

private theorem uuid_groups (u : Bytes) :
    u.take 4 ++ (u.drop 4).take 2 ++ (u.drop 6).take 2 ++ (u.drop 8).take 2 ++ u.drop 10 = u := by
  have key : ∀ k n, (u.drop k).take n ++ u.drop (k + n) = u.drop k := fun k n => by
    rw [← List.drop_drop]
    exact List.take_append_drop n _
  rw [List.append_assoc, List.append_assoc, List.append_assoc, key 8 2, key 6 2, key 4 2, List.take_append_drop]

/-- **Canonical round trip for all 2^128 values**: `UnmarshalText(MarshalText(u)) = u`. -/
theorem C16_uuid_roundtrip (u : Bytes) (h : u.length = 16) : uuidUnmarshal (uuidMarshal u) = .ok u := by
  have e : uuidMarshal u = hexEnc (u.take 4) ++ 45 :: (hexEnc ((u.drop 4).take 2) ++ 45 :: (hexEnc ((u.drop 6).take 2) ++ 45 ::
      (hexEnc ((u.drop 8).take 2) ++ 45 :: hexEnc (u.drop 10)))) := by simp [uuidMarshal]
  have l : (uuidMarshal u).length = 36 := by simp [e, hexEnc_length, h]
  simp only [uuidUnmarshal, l, show ¬ (36 = 32) by decide, if_false, if_true]
  rw [e, uuidCanonical_groups _ _ _ _ _ (by simp [hexEnc_length, h]) (by simp [hexEnc_length, h]) (by simp [hexEnc_length, h])
    (by simp [hexEnc_length, h]) (by simp [hexEnc_length, h])]
  simp only [hexDec_hexEnc, uuid_groups u]

private theorem leNat_seam (x : Bytes) (w : Nat) (z : Bytes) (hw : w < 2 ^ 64) {n : Nat} (hn : n = x.length) :
    leNat (((x ++ (leBytes 8 w ++ z)).drop n).take 8) = w := by
  subst hn
  rw [List.drop_left, List.take_left' (leBytes_length 8 w), leNat_leBytes, Nat.mod_eq_of_lt (by omega)]

/-- every 64-bit hash survives `Encode` → `Decode` -/
theorem C16_hash64_roundtrip (h : Nat) (hh : h < 2 ^ 64) :
    (hash64Encode 8 h).bind hash64Decode = .ok h := by
  have w := leNat_seam [] h [] hh (n := 0) rfl
  simp only [List.nil_append, List.append_nil, List.drop_zero] at w
  simp only [hash64Encode, show ¬ (8 < 8) by omega, if_false, Outcome.bind, hash64Decode, leBytes_length, w]

/-- every 256-bit hash (four words) survives `Encode` → `Decode` -/
theorem C16_hash256_roundtrip (a b c d : Nat) (ha : a < 2 ^ 64) (hb : b < 2 ^ 64) (hc : c < 2 ^ 64) (hd : d < 2 ^ 64) :
    (hash256Encode 32 [a, b, c, d]).bind hash256Decode = .ok [a, b, c, d] := by
  have w1 := leNat_seam [] a (leBytes 8 b ++ (leBytes 8 c ++ leBytes 8 d)) ha (n := 0) rfl
  have w2 := leNat_seam (leBytes 8 a) b (leBytes 8 c ++ leBytes 8 d) hb (n := 8) (by simp [leBytes_length])
  have w3 := leNat_seam (leBytes 8 a ++ leBytes 8 b) c (leBytes 8 d) hc (n := 16) (by simp [leBytes_length])
  have w4 := leNat_seam (leBytes 8 a ++ (leBytes 8 b ++ leBytes 8 c)) d [] hd (n := 24) (by simp [leBytes_length])
  simp only [List.nil_append, List.append_nil, List.drop_zero, List.append_assoc] at w1 w2 w3 w4
  simp only [hash256Encode, show ¬ (32 < 32) by omega, if_false, Outcome.bind, hash256Decode, List.flatMap_cons,
    List.flatMap_nil, List.append_nil, List.length_append, leBytes_length, w1, w2, w3, w4]

/-! ## MessagePack: the integer forms behind every generated `MarshalMsg` / `UnmarshalMsg` / `Msgsize`

`Gen/Msgp` facts (regenerated) say which primitive each named type uses; the theorem below covers every
integer kind a primitive can have. -/

def intKinds : List IKind := [IKind.u8, IKind.u16, IKind.u32, IKind.u64, IKind.i8, IKind.i16, IKind.i32, IKind.i64]

/-- the round trip depends on the kind only through its signedness and `bits ≤ 64` -/
theorem mp_roundtrip (k : IKind) (hb : k.bits ≤ 64) (v : Int) (hlo : k.lo ≤ v) (hhi : v ≤ k.hi) (rest : Bytes) :
    mpUnmarshal k (mpMarshal k v ++ rest) = .ok (v, rest) := by
  have p1 : (2 : Int) ^ k.bits ≤ 2 ^ 64 := by exact_mod_cast Nat.pow_le_pow_right (by decide) hb
  have p2 : (2 : Int) ^ (k.bits - 1) ≤ 2 ^ 63 := by exact_mod_cast Nat.pow_le_pow_right (by decide) (by omega : k.bits - 1 ≤ 63)
  unfold mpUnmarshal mpMarshal
  cases hs : k.signed
  · simp only [IKind.lo, IKind.hi, hs, Bool.false_eq_true, if_false] at hlo hhi ⊢
    rw [mpReadUintK, mp_uint_roundtrip v.toNat (by omega) rest]
    simp only [Outcome.bind, IKind.hi, hs, Bool.false_eq_true, if_false]
    rw [if_neg (by omega), Int.toNat_of_nonneg hlo]
  · simp only [IKind.lo, IKind.hi, hs, if_true] at hlo hhi ⊢
    rw [mpReadIntK, mp_int_roundtrip v (by omega) (by omega) rest]
    simp only [Outcome.bind, IKind.hi, IKind.lo, hs, if_true]
    rw [if_neg (by omega)]

theorem mp_size (k : IKind) (hk : k ∈ intKinds) (v : Int) (hlo : k.lo ≤ v) (hhi : v ≤ k.hi) :
    (mpMarshal k v).length ≤ mpSize k := by
  simp only [intKinds, List.mem_cons, List.mem_nil_iff, or_false] at hk
  rcases hk with h | h | h | h | h | h | h | h <;> subst h <;>
    simp only [IKind.lo, IKind.hi, IKind.u8, IKind.u16, IKind.u32, IKind.u64, IKind.i8, IKind.i16, IKind.i32, IKind.i64,
      mpMarshal, mpSize, mp_uint_length, mp_int_length, if_true, if_false, Bool.false_eq_true, Int.reducePow, Int.reduceSub,
      Int.reduceNeg, Nat.reduceDiv, Nat.reduceAdd, Nat.reduceSub] at hlo hhi ⊢ <;>
    (repeat' split) <;> omega

/-- For each integer kind and **every value of the kind**: what `AppendIntN/UintN` writes is read back by
`ReadIntNBytes/UintNBytes` as the same value with the remaining bytes untouched, and the encoding is
never longer than the `IntNSize/UintNSize` hint (`Msgsize` is an upper bound). -/
theorem C16_msgp_roundtrip (k : IKind) (hk : k ∈ intKinds) (v : Int) (hlo : k.lo ≤ v) (hhi : v ≤ k.hi) (rest : Bytes) :
    mpUnmarshal k (mpMarshal k v ++ rest) = .ok (v, rest) ∧ (mpMarshal k v).length ≤ mpSize k :=
  ⟨mp_roundtrip k ((by decide : ∀ k ∈ intKinds, k.bits ≤ 64) k hk) v hlo hhi rest, mp_size k hk v hlo hhi⟩

/-- the msgp primitive family of a scalar Go type -/
def primName : String → Option String
  | "uint8" => some "Uint8" | "uint16" => some "Uint16" | "uint32" => some "Uint32" | "uint64" => some "Uint64"
  | "int8" => some "Int8" | "int16" => some "Int16" | "int32" => some "Int32" | "int64" => some "Int64"
  | "float32" => some "Float32" | "float64" => some "Float64"
  | _ => none

/-- a generated codec is consistent when all five methods use the primitive of the type's own kind -/
def factConsistent (f : Imeta.Gen.Msgp.Fact) : Bool :=
  match primName f.under with
  | some k =>
    f.marshal == ["Append" ++ k, "conv:" ++ f.under] && f.unmarshal == ["Read" ++ k ++ "Bytes"] &&
    f.encode == ["Write" ++ k, "conv:" ++ f.under] && f.decode == ["Read" ++ k] && f.size == [k ++ "Size"]
  | none => true

/-- **Tie to the generated code** (facts regenerated from /repo's `*_gen.go` on every run): every scalar
named type is written, read and sized with the MessagePack primitive of exactly its own underlying kind,
so `C16_msgp_roundtrip` applies to it with that kind. -/
theorem C16_msgp_facts_consistent : Imeta.Gen.Msgp.facts.all factConsistent = true := by decide +kernel

/-- the scalar types the property names are all present in the fact table -/
theorem C16_msgp_facts_cover :
    ["ImageType", "ExposureBias", "ExposureMode", "ExposureProgram", "MeteringMode", "Flash", "Orientation", "Compression",
     "Aperture", "FocalLength", "ExposureTime", "PHash64", "Ahash", "ContinuousDrive", "FocusMode", "AESetting",
     "AFAreaMode", "BracketMode", "FocusRange"].all
      (fun t => Imeta.Gen.Msgp.facts.any fun f => f.typ == t && (primName f.under).isSome) = true := by decide +kernel

/-- non-vacuity: -4/3 stops (`0xFC03` as int16 = -1021) on the wire and back -/
example : mpUnmarshal IKind.i16 (mpMarshal IKind.i16 (-1021) ++ [0xc0]) = .ok (-1021, [0xc0]) := by decide

end Imeta.C16
