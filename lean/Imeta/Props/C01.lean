/-
  C01 — No input bytes or I/O failure point makes a decoder panic or crash.

  Property theorems: for each modelled decoder, for every byte string (every truncation is just another byte
  string; a reader that fails after k bytes delivers the same prefix), the model never reaches an out-of-range
  index, slice or division — `Outcome.panic` is unreachable.  The models are tied to the code by the
  correspondence checks named in each section; the entry points that are not modelled yet (isobmff handlers,
  xmp) are covered by the search of `vh run C01` only and are listed under `not_modelled` in the evidence.
-/
import Imeta.Lemmas.ExifWalk
import Imeta.Props.C09
import Imeta.Props.C12
import Imeta.Props.C16
import Imeta.Lemmas.Png
import Imeta.Props.C11
namespace Imeta.C01
open Imeta Imeta.Exif

/-- `ifdReader.DecodeTiff` (TIFF family, HEIF, PNG): no panic for any stream, header, byte order or reader kind -/
theorem C01_exif_decodeTiff (tb : Tables) (rest : Bytes) (buffered : Bool) (h : Hdr) :
    (decodeTiff tb rest buffered h).isPanic = false := (decodeTiff_ret tb rest buffered h).isPanic

/-- `ifdReader.DecodeJPEGIfd` (JPEG APP1) -/
theorem C01_exif_decodeJPEGIfd (tb : Tables) (rest : Bytes) (buffered : Bool) (h : Hdr) :
    (decodeJPEGIfd tb rest buffered h).isPanic = false := (decodeJPEGIfd_ret tb rest buffered h).isPanic

/-- `ifdReader.DecodeIfd` (CR3 CMT boxes) -/
theorem C01_exif_decodeIfd (tb : Tables) (rest : Bytes) (buffered : Bool) (h : Hdr) :
    (decodeIfd tb rest buffered h).isPanic = false := (decodeIfd_ret tb rest buffered h).isPanic

/-- `exif2.Parse`: header search + unbuffered decode -/
theorem C01_exif_parse (tb : Tables) (b : Bytes) : (Exif.parse tb b).isPanic = false :=
  (parse_ret tb b (Tiff.C12_no_panic b (b.length + 1) (Nat.lt_succ_self _))).isPanic

/-- the tag parser alone: any tag in any reader state (this is where the pinned tree indexed short values) -/
theorem C01_exif_parseTag (tb : Tables) (r : R) (t : Tag) : (parseTag tb r t).isPanic = false := parseTag_np tb r t

theorem C01_imagetype (b : Bytes) : (ImageType.Buf b).isPanic = false := (ImageType.C09_total b).1

theorem C01_tiff_header (b : Bytes) : (Tiff.scan (b.length + 1) b 0).isPanic = false :=
  (Tiff.C12_no_panic b (b.length + 1) (by omega)).1

theorem C01_png (b : Bytes) : (Png.scan b).isPanic = false := by
  unfold Png.scan
  split
  · rfl
  · split
    · exact Png.chunks_np b _ _
    · rfl

theorem C01_exposureBias_text (prev : Int) (t : Bytes) : (Codec.ebUnmarshal prev t).isPanic = false :=
  C16.C16_exposureBias_total prev t
theorem C01_uuid_text (t : Bytes) : (Codec.uuidUnmarshal t).isPanic = false := C16.C16_uuid_total t
theorem C01_aperture_text (t : Bytes) : (Codec.apertureParse t).isPanic = false := C16.C16_aperture_total t
theorem C01_focalLength_text (t : Bytes) : (Codec.focalStrip t).isPanic = false := C16.C16_focalLength_total t

/-- non-vacuity: the 12-byte GPSDateStamp on which the pinned tree panicked is a plain "no date" -/
example : (parseGPSDate { rest := [50, 48, 50, 49, 58, 48, 50, 58, 48, 51, 32, 120], po := 100, exifLength := 1000, buffered := true }
    { off := 100, count := 12, id := 0x1d, typ := tASCII, ifd := gpsIFD, idx := 0, order := .little }).isPanic = false := by decide

/-- ISOBMFF (isobmff.Reader.ReadFTYP / ReadMetadata, which Decode / DecodeCR3 / PreviewCR3 drive): the model never reaches
a panic outcome, for every stream -/
theorem C01_isobmff_readMetadata (s : Bmff.St) (hs : s.chain = []) : ¬ Bmff.isPanic (Bmff.readMetadata s).1 :=
  Props.C11.C11_readMetadata_total s hs
theorem C01_isobmff_readFTYP (s : Bmff.St) (hs : s.chain = []) : ¬ Bmff.isPanic (Bmff.readFTYP s).1 :=
  Props.C11.C11_readFTYP_total s hs

end Imeta.C01
