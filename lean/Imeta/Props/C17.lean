/-
  C17 — Every enum and tag value formats without panicking; known values by their name.

  The functions are GENERATED from /repo on every run
  (Imeta.Gen.Enums, by tools/cmd/gotypes2lean); the documented names are the
  hand-written tables of Imeta.Spec.Enums.
-/
import Imeta.Lemmas.Enums
-- the range hypotheses of the `_names` statements are part of the statements; the proofs hold for every integer
set_option linter.unusedVariables false
namespace Imeta.C17
open Imeta Imeta.Gen.Enums Imeta.EnumSpec Imeta.EnumLemmas

/-! ### `<pkg>_<Type>_String_names`: every value of the type (negative ones included, for the signed types) formats,
without panic, as its documented name if it has one and as the fallback otherwise

First the stringers that look the value up in a map literal. The literal is the documentation's table (one kernel
comparison, entry by entry), so the stringer is `Doc.name` on every integer; the range hypotheses are not used. -/

theorem meta_canon_FocusRange_String_names (v : Int) (hlo : -32768 ≤ v) (hhi : v ≤ 32767) :
    meta_canon_FocusRange_String v = .ok (canonFocusRange.name v) :=
  congrArg Outcome.ok (canonFocusRange.name_of_table _ _ (by decide +kernel) (by decide +kernel) v)

theorem meta_canon_MeteringMode_String_names (v : Int) (hlo : -32768 ≤ v) (hhi : v ≤ 32767) :
    meta_canon_MeteringMode_String v = .ok (canonMeteringMode.name v) :=
  congrArg Outcome.ok (canonMeteringMode.name_of_table _ _ (by decide +kernel) (by decide +kernel) v)

theorem meta_canon_ExposureMode_String_names (v : Int) (hlo : -32768 ≤ v) (hhi : v ≤ 32767) :
    meta_canon_ExposureMode_String v = .ok (canonExposureMode.name v) :=
  congrArg Outcome.ok (canonExposureMode.name_of_table _ _ (by decide +kernel) (by decide +kernel) v)

theorem meta_canon_BracketMode_String_names (v : Int) (hlo : -32768 ≤ v) (hhi : v ≤ 32767) :
    meta_canon_BracketMode_String v = .ok (canonBracketMode.name v) :=
  congrArg Outcome.ok (canonBracketMode.name_of_table _ _ (by decide +kernel) (by decide +kernel) v)

theorem meta_canon_AESetting_String_names (v : Int) (hlo : -32768 ≤ v) (hhi : v ≤ 32767) :
    meta_canon_AESetting_String v = .ok (canonAESetting.name v) :=
  congrArg Outcome.ok (canonAESetting.name_of_table _ _ (by decide +kernel) (by decide +kernel) v)

theorem meta_canon_AFAreaMode_String_names (v : Int) (hlo : -32768 ≤ v) (hhi : v ≤ 32767) :
    meta_canon_AFAreaMode_String v = .ok (canonAFAreaMode.name v) :=
  congrArg Outcome.ok (canonAFAreaMode.name_of_table _ _ (by decide +kernel) (by decide +kernel) v)

theorem isobmff_hdlrType_String_names (n : Nat) (h : n < 256) :
    isobmff_hdlrType_String (n : Int) = .ok (hdlrType.name (n : Int)) :=
  (commaOk_getD _ _ _).trans (congrArg Outcome.ok (hdlrType.name_of_table _ _ (by decide +kernel) (by decide +kernel) n))

/-- XMP names and namespace prefixes: `fmt.Sprintf(table[n])`, and no table entry contains a format verb -/
theorem xmp_xmpns_Namespace_String_eq (v : Int) :
    xmp_xmpns_Namespace_String v = .ok ((gmapGet xmp_xmpns_mapNSString_data v).getD []) := by
  unfold xmp_xmpns_Namespace_String
  rw [gsprintf0_map _ _ (by decide +kernel)]; rfl

theorem xmp_xmpns_Name_String_eq (v : Int) :
    xmp_xmpns_Name_String v = .ok ((gmapGet xmp_xmpns_mapNameString_data v).getD []) := by
  unfold xmp_xmpns_Name_String
  rw [gsprintf0_map _ _ (by decide +kernel)]; rfl

theorem xmp_xmpns_Namespace_String_names (n : Nat) (h : n < 256) :
    xmp_xmpns_Namespace_String (n : Int) = .ok (xmpNamespace.name (n : Int)) :=
  (xmp_xmpns_Namespace_String_eq n).trans
    (congrArg Outcome.ok (xmpNamespace.name_of_table _ _ (by decide +kernel) (by decide +kernel) n))

theorem xmp_xmpns_Name_String_total (v : Int) : isOk (xmp_xmpns_Name_String v) = true := by
  rw [xmp_xmpns_Name_String_eq]; rfl

theorem xmp_xmpns_Namespace_String_total (v : Int) : isOk (xmp_xmpns_Namespace_String v) = true := by
  rw [xmp_xmpns_Namespace_String_eq]; rfl

/-! Then the stringers with an index table behind a guard, or a switch (`Doc.names_of_sweep`): below `N`, which bounds
the documented keys and the cases of the function, the kernel compares function and documentation value by value;
from `N` on, and below 0 for the signed types, `enum_far`. -/

/-- The goal is `f v = .ok fallback` with `f` unfolded and `v < 0 ∨ N ≤ v` among the hypotheses: every guard and every
`case` of `f` compares `v` with a constant in `[0, N)` and is therefore false (`omega`); what is left of `f` is a closed
term, which the kernel evaluates. -/
macro "enum_far" : tactic => `(tactic|
  (dsimp only
   repeat rw [if_neg (by simp only [decide_eq_true_eq, beq_iff_eq, Bool.and_eq_true, ge_iff_le]; omega)]
   decide +kernel))

theorem imagetype_ImageType_String_names (n : Nat) (h : n < 256) :
    imagetype_ImageType_String (n : Int) = .ok (imageType.name (n : Int)) :=
  imageType.names_of_sweep _ 24 (0 ≤ ·) (by decide +kernel) (by decide +kernel)
    (fun v h0 hv => by unfold imagetype_ImageType_String; enum_far) n (by omega)

theorem imagetype_ImageType_Extension_names (n : Nat) (h : n < 256) :
    imagetype_ImageType_Extension (n : Int) = .ok (imageTypeExt.name (n : Int)) :=
  imageTypeExt.names_of_sweep _ 24 (0 ≤ ·) (by decide +kernel) (by decide +kernel)
    (fun v h0 hv => by unfold imagetype_ImageType_Extension; enum_far) n (by omega)

theorem exif2_ifds_IfdType_String_names (n : Nat) (h : n < 256) :
    exif2_ifds_IfdType_String (n : Int) = .ok (ifdType.name (n : Int)) :=
  ifdType.names_of_sweep _ 20 (0 ≤ ·) (by decide +kernel) (by decide +kernel)
    (fun v h0 hv => by unfold exif2_ifds_IfdType_String exif2_ifds_IfdType_String_rec; enum_far) n (by omega)

theorem exif2_tag_Type_String_names (n : Nat) (h : n < 256) :
    exif2_tag_Type_String (n : Int) = .ok (tagType.name (n : Int)) :=
  tagType.names_of_sweep _ 242 (0 ≤ ·) (by decide +kernel) (by decide +kernel)
    (fun v h0 hv => by unfold exif2_tag_Type_String exif2_tag_Type_String_rec; enum_far) n (by omega)

theorem meta_MeteringMode_String_names (n : Nat) (h : n < 65536) :
    meta_MeteringMode_String (n : Int) = .ok (meteringMode.name (n : Int)) :=
  meteringMode.names_of_sweep _ 256 (0 ≤ ·) (by decide +kernel) (by decide +kernel)
    (fun v h0 hv => by unfold meta_MeteringMode_String; enum_far) n (by omega)

theorem meta_ExposureMode_String_names (n : Nat) (h : n < 65536) :
    meta_ExposureMode_String (n : Int) = .ok (exposureMode.name (n : Int)) :=
  exposureMode.names_of_sweep _ 3 (0 ≤ ·) (by decide +kernel) (by decide +kernel)
    (fun v h0 hv => by unfold meta_ExposureMode_String; enum_far) n (by omega)

theorem meta_ExposureProgram_String_names (n : Nat) (h : n < 65536) :
    meta_ExposureProgram_String (n : Int) = .ok (exposureProgram.name (n : Int)) :=
  exposureProgram.names_of_sweep _ 10 (0 ≤ ·) (by decide +kernel) (by decide +kernel)
    (fun v h0 hv => by unfold meta_ExposureProgram_String meta_ExposureProgram_String_rec; enum_far) n (by omega)

theorem meta_Orientation_String_names (n : Nat) (h : n < 65536) :
    meta_Orientation_String (n : Int) = .ok (orientation.name (n : Int)) :=
  orientation.names_of_sweep _ 9 (0 ≤ ·) (by decide +kernel) (by decide +kernel)
    (fun v h0 hv => by unfold meta_Orientation_String meta_Orientation_String_rec; enum_far) n (by omega)

theorem meta_Flash_String_names (n : Nat) (h : n < 65536) :
    meta_Flash_String (n : Int) = .ok (flash.name (n : Int)) :=
  flash.names_of_sweep _ 96 (0 ≤ ·) (by decide +kernel) (by decide +kernel)
    (fun v h0 hv => by unfold meta_Flash_String meta_Flash_String_rec; enum_far) n (by omega)

theorem meta_utils_ByteOrder_String_names (v : Int) (hlo : -128 ≤ v) (hhi : v ≤ 127) :
    meta_utils_ByteOrder_String v = .ok (byteOrder.name v) :=
  byteOrder.names_of_sweep _ 3 (fun _ => True) (by decide +kernel) (by decide +kernel)
    (fun v _ hv => by unfold meta_utils_ByteOrder_String; enum_far) v trivial

theorem meta_canon_ContinuousDrive_String_names (v : Int) (hlo : -32768 ≤ v) (hhi : v ≤ 32767) :
    meta_canon_ContinuousDrive_String v = .ok (canonContinuousDrive.name v) :=
  canonContinuousDrive.names_of_sweep _ 11 (fun _ => True) (by decide +kernel) (by decide +kernel)
    (fun v _ hv => by unfold meta_canon_ContinuousDrive_String; enum_far) v trivial

theorem meta_canon_FocusMode_String_names (v : Int) (hlo : -32768 ≤ v) (hhi : v ≤ 32767) :
    meta_canon_FocusMode_String v = .ok (canonFocusMode.name v) :=
  canonFocusMode.names_of_sweep _ 520 (fun _ => True) (by decide +kernel) (by decide +kernel)
    (fun v _ hv => by unfold meta_canon_FocusMode_String; enum_far) v trivial

/-! ### Totality of the stringers that have no documented-name table above

Map-, switch- and Sprintf-based functions: every path returns, for every integer argument. -/

theorem exif2_tag_ID_String_total (v : Int) : isOk (exif2_tag_ID_String v) = true := rfl

theorem exif2_ifds_TagString_total (v : Int) : isOk (exif2_ifds_TagString v) = true := by
  unfold exif2_ifds_TagString
  simp only [apply_ite isOk, isOk_ok, ite_self, isOk_bind_pure, exif2_tag_ID_String_total]

theorem exif2_ifds_exififd_TagString_total (v : Int) : isOk (exif2_ifds_exififd_TagString v) = true := by
  unfold exif2_ifds_exififd_TagString
  simp only [apply_ite isOk, isOk_ok, ite_self, isOk_bind_pure, exif2_tag_ID_String_total]

theorem exif2_ifds_gpsifd_TagString_total (v : Int) : isOk (exif2_ifds_gpsifd_TagString v) = true := by
  unfold exif2_ifds_gpsifd_TagString
  simp only [apply_ite isOk, isOk_ok, ite_self, isOk_bind_pure, exif2_tag_ID_String_total]

theorem exif2_ifds_mknote_canon_TagCanonString_total (v : Int) : isOk (exif2_ifds_mknote_canon_TagCanonString v) = true := by
  unfold exif2_ifds_mknote_canon_TagCanonString
  simp only [apply_ite isOk, isOk_ok, ite_self, isOk_bind_pure, exif2_tag_ID_String_total]

theorem exif2_ifds_mknote_nikon_TagNikonString_total (v : Int) : isOk (exif2_ifds_mknote_nikon_TagNikonString v) = true := by
  unfold exif2_ifds_mknote_nikon_TagNikonString
  simp only [apply_ite isOk, isOk_ok, ite_self, isOk_bind_pure, exif2_tag_ID_String_total]

theorem exif2_ifds_mknote_apple_TagAppleString_total (v : Int) : isOk (exif2_ifds_mknote_apple_TagAppleString v) = true := by
  unfold exif2_ifds_mknote_apple_TagAppleString
  simp only [apply_ite isOk, isOk_ok, ite_self, isOk_bind_pure, exif2_tag_ID_String_total]

theorem exif2_ifds_mknote_sony_TagSonyString_total (v : Int) : isOk (exif2_ifds_mknote_sony_TagSonyString v) = true := by
  unfold exif2_ifds_mknote_sony_TagSonyString
  simp only [apply_ite isOk, isOk_ok, ite_self, isOk_bind_pure, exif2_tag_ID_String_total]

theorem exif2_ifds_mknote_canon_CameraModel_String_total (v : Int) : isOk (exif2_ifds_mknote_canon_CameraModel_String v) = true := by
  unfold exif2_ifds_mknote_canon_CameraModel_String
  simp only [apply_ite isOk, isOk_ok, ite_self]

theorem exif2_ifds_mknote_apple_CameraModel_String_total (v : Int) : isOk (exif2_ifds_mknote_apple_CameraModel_String v) = true := by
  unfold exif2_ifds_mknote_apple_CameraModel_String
  simp only [apply_ite isOk, isOk_ok, ite_self]

theorem exif2_ifds_mknote_nikon_CameraModel_String_total (v : Int) : isOk (exif2_ifds_mknote_nikon_CameraModel_String v) = true := by
  unfold exif2_ifds_mknote_nikon_CameraModel_String
  simp only [apply_ite isOk, isOk_ok, ite_self]

theorem exif2_ifds_mknote_sony_CameraModel_String_total (v : Int) : isOk (exif2_ifds_mknote_sony_CameraModel_String v) = true := by
  unfold exif2_ifds_mknote_sony_CameraModel_String
  simp only [apply_ite isOk, isOk_ok, ite_self]

theorem meta_Compression_String_total (v : Int) : isOk (meta_Compression_String v) = true := by
  unfold meta_Compression_String
  simp only [apply_ite isOk, isOk_ok, ite_self]

theorem isobmff_Brand_String_total (v : Int) : isOk (isobmff_Brand_String v) = true := by
  unfold isobmff_Brand_String
  simp only [apply_ite isOk, isOk_ok, ite_self]

theorem isobmff_boxType_String_total (v : Int) : isOk (isobmff_boxType_String v) = true := by
  unfold isobmff_boxType_String
  simp only [apply_ite isOk, isOk_ok, ite_self]

theorem jpeg_markerType_String_total (v : Int) : isOk (jpeg_markerType_String v) = true := by
  unfold jpeg_markerType_String
  simp only [apply_ite isOk, isOk_ok, ite_self]

theorem exif2_ifds_TagSubIfdString_total (id it : Int) : isOk (exif2_ifds_TagSubIfdString id it) = true := by
  unfold exif2_ifds_TagSubIfdString
  simp only [apply_ite isOk, isOk_ok, ite_self, isOk_bind_pure, exif2_ifds_TagString_total]

/-- tag.ID x IfdType: the tag-name lookup returns for every pair -/
theorem exif2_ifds_IfdType_TagName_total (it id : Int) : isOk (exif2_ifds_IfdType_TagName it id) = true := by
  unfold exif2_ifds_IfdType_TagName
  simp only [apply_ite isOk, ite_self, isOk_bind_pure, exif2_ifds_TagString_total,
    exif2_ifds_exififd_TagString_total, exif2_ifds_gpsifd_TagString_total,
    exif2_ifds_mknote_canon_TagCanonString_total, exif2_ifds_mknote_nikon_TagNikonString_total,
    exif2_ifds_mknote_apple_TagAppleString_total, exif2_ifds_mknote_sony_TagSonyString_total,
    exif2_ifds_TagSubIfdString_total, exif2_tag_ID_String_total]

/-- CameraModel (32-bit): every value, whatever family it falls in -/
theorem exif2_ifds_CameraModel_String_total (v : Int) : isOk (exif2_ifds_CameraModel_String v) = true := by
  unfold exif2_ifds_CameraModel_String
  simp only [apply_ite isOk, isOk_ok, ite_self, isOk_bind_pure, exif2_ifds_mknote_canon_CameraModel_String_total,
    exif2_ifds_mknote_apple_CameraModel_String_total, exif2_ifds_mknote_nikon_CameraModel_String_total,
    exif2_ifds_mknote_sony_CameraModel_String_total]

/-- CameraMake (uint16, index table guarded by `cm <= Hisilicon`) -/
theorem exif2_ifds_CameraMake_String_total (n : Nat) (h : n < 65536) :
    isOk (exif2_ifds_CameraMake_String (n : Int)) = true := by
  by_cases hn : n < 51
  · clear h; revert n; decide +kernel
  · unfold exif2_ifds_CameraMake_String
    enum_far

/-- the size table has an entry for every value of the type -/
theorem exif2_tag_Type_Size_total (n : Nat) (h : n < 256) : isOk (exif2_tag_Type_Size (n : Int)) = true := by
  unfold exif2_tag_Type_Size
  rw [isOk_bind_pure]
  exact isOk_gbyteAt _ n (by rw [show exif2_tag_tagSize_data.length = 256 by decide +kernel]; exact h)

theorem exif2_tag_Type_IsValid_total (v : Int) : isOk (exif2_tag_Type_IsValid v) = true := rfl
theorem exif2_ifds_IfdType_IsValid_total (v : Int) : isOk (exif2_ifds_IfdType_IsValid v) = true := rfl

/-- IsValid is exactly "a documented directory type" -/
theorem exif2_ifds_IfdType_IsValid_iff (n : Nat) (h : n < 256) :
    exif2_ifds_IfdType_IsValid (n : Int) = .ok (decide (1 ≤ n ∧ n < 20)) := by
  revert n; decide +kernel

/-! ### Parsing a documented name returns the value it names -/

/-- image types, content-type form -/
theorem imagetype_FromString_String (n : Nat) (h : n < 24) :
    imagetype_FromString (imageType.name (n : Int)) = .ok (n : Int) := by
  revert n; decide +kernel

/-- image types, extension form ("." ++ lower/upper-case extension) -/
theorem imagetype_FromString_Extension (n : Nat) (h : n < 24) :
    imagetype_FromString (0x2e :: imageTypeExt.name (n : Int)) = .ok (if n = 0 then 0 else (n : Int)) := by
  revert n; decide +kernel

/-- every string parses without panic (one that is neither a content type nor an extension falls through to the default,
ImageUnknown) -/
theorem imagetype_FromString_total (s : Bytes) : isOk (imagetype_FromString s) = true := by
  unfold imagetype_FromString
  simp only [apply_ite isOk, isOk_ok, ite_self]

/-- XMP namespace prefixes -/
theorem xmpns_IdentifyNamespace_String (n : Nat) (h : n < 23) :
    xmp_xmpns_IdentifyNamespace (xmpNamespace.name (n : Int)) = .ok (n : Int) := by
  revert n; decide +kernel

theorem xmpns_IdentifyNamespace_total (s : Bytes) : isOk (xmp_xmpns_IdentifyNamespace s) = true := rfl
theorem xmpns_IdentifyName_total (s : Bytes) : isOk (xmp_xmpns_IdentifyName s) = true := rfl

/-- XMP property names: String then IdentifyName is the identity, on every named property and (the name being empty)
on every other value: the name-to-value map inverts the value-to-name map, entry by entry -/
theorem xmpns_IdentifyName_String (n : Nat) (h : n < 256) :
    (Outcome.bind (xmp_xmpns_Name_String (n : Int)) fun s =>
      if s.isEmpty then .ok (n : Int) else xmp_xmpns_IdentifyName s) = .ok (n : Int) := by
  have := gmapGet_inverse xmp_xmpns_mapNameString_data xmp_xmpns_mapStringName_data (by decide +kernel) n
  rw [xmp_xmpns_Name_String_eq]
  simp only [Outcome.bind, xmp_xmpns_IdentifyName]
  split
  · rfl
  · rename_i hs; simp only [hs, Bool.false_eq_true, if_false] at this; rw [this]

/-! ### Non-vacuity: values on which the stringers of the pinned tree panicked (DESIGN section 7, C17) -/
example : meta_canon_FocusMode_String 6 = .ok (asc "Manual Focus") := by decide +kernel
example : meta_canon_FocusMode_String (-1) = .ok (asc "Unknown") := by decide +kernel
example : meta_canon_ContinuousDrive_String (-32768) = .ok (asc "Unknown") := by decide +kernel

end Imeta.C17
