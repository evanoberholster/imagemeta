/-
  C18 — vectorised DCT kernels equal the portable kernels bit-for-bit and match DCT-II.

  The instruction lists of ·asmForwardDCT64 / ·asmForwardDCT256, the DATA tables and the constants of the portable kernels
  are regenerated from asm_x86.s and dct.go (Imeta/Gen/AsmDct.lean). The lane-level semantics of the instructions
  (Imeta/Model/AvxSem.lean) is polymorphic in the arithmetic; instantiated with IEEE single precision it is checked
  bitwise against the real assembly and the real portable kernel on every run (correspondence). Instantiated with the
  free term algebra it gives, for each of the 64 (256) outputs, the exact expression tree over the 64 (256) inputs
  that the assembly computes; the theorems compare those trees with the trees of the portable kernels.
-/
import Imeta.Gen.AsmDct
import Imeta.Lemmas.AvxNat
namespace Imeta.Props.C18
open Imeta.AvxSem Imeta.Gen.AsmDct

def goTabs : GoTabs :=
  { t256 := go_dct256, t128 := go_dct128, t64 := go_dct6432, t32 := go_dct3232, t16 := go_dct1632,
    t8 := go_forwardDCT8_divisors, t4 := go_forwardDCT4_divisors }

def inputs (n : Nat) : List Expr := (List.range n).map .inp

def tagOf : Expr → Nat | .inp _ => 0 | .cst _ => 1 | .zero => 2 | .add .. => 3 | .sub .. => 4 | .div .. => 5

def cmpE : Expr → Expr → Ordering
  | .inp a, .inp b => compare a b
  | .cst a, .cst b => compare a b
  | .zero, .zero => .eq
  | .add a b, .add c d => match cmpE a c with | .eq => cmpE b d | o => o
  | .sub a b, .sub c d => match cmpE a c with | .eq => cmpE b d | o => o
  | .div a b, .div c d => match cmpE a c with | .eq => cmpE b d | o => o
  | x, y => compare (tagOf x) (tagOf y)

/-- normal form modulo the two laws `x + 0 = 0 + x = x` and `x + y = y + x` (nothing else: no associativity, no
distributivity, no constant folding) -/
def norm : Expr → Expr
  | .add a b => match norm a, norm b with
    | .zero, y => y
    | x, .zero => x
    | x, y => if cmpE x y == .gt then .add y x else .add x y
  | .sub a b => .sub (norm a) (norm b)
  | .div a b => .div (norm a) (norm b)
  | e => e

def normL : Lane Expr → Lane Expr | .v e => .v (norm e) | l => l

/-- the constants of the assembly tables are the constants of the portable kernels, as float32 bit patterns -/
theorem tables_agree :
    tab_dct256 = go_dct256 ∧ tab_dct128 = go_dct128 ∧ tab_dct64 = go_dct6432 ∧ tab_dct32 = go_dct3232 ∧
    tab_dct16 = go_dct1632 ∧ tab_dct8 = go_forwardDCT8_divisors := by decide +kernel

/-- **64 points.** Every instruction of asmForwardDCT64 is in the modelled set, every memory operand stays inside the 64
floats of the argument, and each of the 64 results is — up to the commutativity of `+` and `x + 0 = x` — the very
expression, operation for operation and in the same association, that forwardDCT64 computes. -/
theorem asm64_computes_go64 :
    (kernel table asmForwardDCT64 0 (inputs 64)).map (·.map normL) = some (((goDct64 goTabs (inputs 64)).map .v).map normL) := by
  decide +kernel

/-- **256 points**, likewise: all 256 results of asmForwardDCT256 (which keeps its intermediate vectors in a 1024-byte
stack frame) are, up to the same two laws, the expressions forwardDCT256 computes; all memory operands stay inside the
256 floats of the argument resp. the 256 floats of the frame. -/
theorem asm256_computes_go256 :
    (kernel table asmForwardDCT256 256 (inputs 256)).map (·.map normL) = some (((goDct256 goTabs (inputs 256)).map .v).map normL) := by
  decide +kernel

/-- the two laws the comparison uses. IEEE-754 addition satisfies `add_comm` exactly (NaN payloads aside) and
`add_zero`/`zero_add` for every operand except -0, for which (-0) + (+0) = +0. -/
class LawfulAlg (α : Type) [Alg α] : Prop where
  add_comm : ∀ a b : α, Alg.add a b = Alg.add b a
  add_zero : ∀ a : α, Alg.add a Alg.zero = a
  zero_add : ∀ a : α, Alg.add Alg.zero a = a

variable {α : Type} [Alg α] [LawfulAlg α]

theorem norm_sound (env : Nat → α) (e : Expr) : eval env (norm e) = eval env e := by
  induction e with
  | inp k => rfl
  | cst b => rfl
  | zero => rfl
  | add a b iha ihb =>
    simp only [norm, eval]
    rw [← iha, ← ihb]
    generalize norm a = na
    generalize norm b = nb
    split
    · exact (LawfulAlg.zero_add _).symm
    · exact (LawfulAlg.add_zero _).symm
    · split
      · exact LawfulAlg.add_comm _ _
      · rfl
  | sub a b iha ihb => simp only [norm, eval, iha, ihb]
  | div a b iha ihb => simp only [norm, eval, iha, ihb]

theorem normL_sound (env : Nat → α) (l : Lane Expr) : evalL env (normL l) = evalL env l := by
  cases l with
  | v e => simp only [normL, evalL, norm_sound]
  | i n => rfl

theorem map_normL_sound (env : Nat → α) (l : List (Lane Expr)) : (l.map normL).map (evalL env) = l.map (evalL env) := by
  simp only [List.map_map]
  apply List.map_congr_left
  intro x _
  exact normL_sound env x

omit [LawfulAlg α] in
theorem inputs_eval (x : List α) (n : Nat) (hx : x.length = n) : (inputs n).map (eval (fun k => x.getD k Alg.zero)) = x := by
  apply List.ext_getElem
  · simp [inputs, hx]
  · intro i h1 h2
    simp [inputs, eval, List.getD_eq_getElem?_getD, List.getElem?_eq_getElem h2]

/-- From equal normalised expression trees to equal values in every lawful arithmetic; `go` is any function natural in
the arithmetic. -/
theorem asm_eq_go (prog : List VIns) (frame n : Nat) (go : {β : Type} → [Alg β] → List β → List β)
    (hgo : ∀ (env : Nat → α) (l : List Expr), go (l.map (eval env)) = (go l).map (eval env))
    (hsym : (kernel table prog frame (inputs n)).map (·.map normL) = some (((go (inputs n)).map .v).map normL))
    (x : List α) (hx : x.length = n) :
    kernel table prog frame x = some ((go x).map .v) := by
  let env : Nat → α := fun i => x.getD i Alg.zero
  have h1 := kernel_natural env table prog frame (inputs n)
  rw [inputs_eval x n hx] at h1
  cases hK : kernel table prog frame (inputs n) with
  | none => simp [hK] at hsym
  | some k =>
    rw [hK, Option.map_some, Option.some.injEq] at hsym
    rw [h1, hK, Option.map_some, ← map_normL_sound env k, hsym, map_normL_sound, ← inputs_eval x n hx, hgo,
      List.map_map, List.map_map]
    rfl

/-- **asmForwardDCT64 = forwardDCT64 in every lawful arithmetic**: for every vector of 64 values the assembly (as
executed by the lane semantics) returns exactly the values the portable kernel returns. -/
theorem C18_asm64_eq_go64 (x : List α) (hx : x.length = 64) :
    kernel table asmForwardDCT64 0 x = some ((goDct64 goTabs x).map .v) :=
  asm_eq_go asmForwardDCT64 0 64 (goDct64 goTabs) (fun env l => goDct64_natural env goTabs l) asm64_computes_go64 x hx

/-- **asmForwardDCT256 = forwardDCT256 in every lawful arithmetic.** -/
theorem C18_asm256_eq_go256 (x : List α) (hx : x.length = 256) :
    kernel table asmForwardDCT256 256 x = some ((goDct256 goTabs x).map .v) :=
  asm_eq_go asmForwardDCT256 256 256 (goDct256 goTabs) (fun env l => goDct256_natural env goTabs l) asm256_computes_go256 x hx

end Imeta.Props.C18
