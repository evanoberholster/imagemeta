/-
  C13 — attribute form, names and values, for a whole attribute list (Lemmas/XmpAttr.lean).
-/
import Imeta.Lemmas.XmpAttr
import Imeta.Props.C13
namespace Imeta.Props.C13
open Imeta Imeta.Xmp

/-- **A whole attribute list is reported exactly.**  The reader stands after a tag name with attributes pending
(`a = true`); the stream holds the attributes `ns:name=q v q`, each preceded by white space (any amount, any of space,
tab, CR, LF; at least one byte between two attributes), either quote character, then '>' and at least one more byte.
Each attribute satisfies `Attr.OK` (prefix and local name free of the delimiter bytes after their first byte, value free
of its own quote character, name within the 128-byte and value within the 256-byte first look-ahead window).  Then the
attribute loop ends normally, has consumed exactly the attributes and the '>', and has handed the parser layer exactly
one token per attribute with a non-empty value — property `identify ns name`, value v, parent the tag — in document
order.  Values and names are therefore reported exactly, whatever the white space and quote style. -/
theorem C13_attribute_list_exact (tag : Tag) (c2 : UInt8) (t : Bytes) (l : List (Bytes × Attr)) (f : Nat) (st : St)
    (hl : l ≠ []) (hf : l.length < f) (ha : st.a = true) (hrest : st.rest = ser l ++ 62 :: c2 :: t)
    (hok : ∀ p ∈ l, (∀ x ∈ p.1, isWs x = true) ∧ p.2.OK) (hsep : ∀ p ∈ l.tail, p.1 ≠ []) :
    attrLoop none f tag st = (.ok tag, { rest := c2 :: t, a := false, toks := pushAll tag.self l st.toks }) :=
  pushAttrs_none tag.self l st.toks ▸ attrLoop_any none tag c2 t l f st hl hf ha hrest hok hsep

/-- one attribute with its name (the building block) -/
theorem C13_attribute_exact (tag : Tag) (st : St) (ws : Bytes) (n0 : UInt8) (ns : Bytes) (m0 : UInt8) (name v t'' : Bytes) (q c1 c2 : UInt8)
    (hws : ∀ x ∈ ws, isWs x = true) (h0 : isWs n0 = false) (hst : (n0 == 62) = false ∧ (n0 == 47) = false) (hns : ∀ x ∈ ns, (x == 58) = false)
    (hname : ∀ x ∈ name, (x == 61 || isWs x) = false) (hq : q = 34 ∨ q = 39) (hv : ∀ x ∈ v, (x == q) = false)
    (h62 : c1 ≠ 62) (h47 : c1 ≠ 47) (hwin : ns.length + name.length + 4 ≤ 128) (hvwin : v.length + 5 ≤ 256)
    (hrest : st.rest = ws ++ (((n0 :: ns) ++ [58] ++ (m0 :: name)) ++ ([61, q] ++ v ++ [q, c1, c2] ++ t''))) :
    readAttribute tag st = (.ok ({ pt := 1, parent := tag.self, self := identify (n0 :: ns) (m0 :: name), val := v }, tag),
      { st with rest := [c1, c2] ++ t'' }) := by
  rw [readAttribute_any tag st ws n0 ns m0 name v t'' q c1 c2 hws h0 hst hns hname hq hv hwin (by omega) hrest]
  simp [attrEnd, h62, h47]

/-! non-vacuity: ` tiff:Make="Canon"\n tiff:Model='EOS'>` -/
def aMake : Attr := { n0 := 116, ns := [105, 102, 102], m0 := 77, name := [97, 107, 101], q := 34, v := [67, 97, 110, 111, 110] }
def aModel : Attr := { n0 := 116, ns := [105, 102, 102], m0 := 77, name := [111, 100, 101, 108], q := 39, v := [69, 79, 83] }
example : aMake.OK ∧ aModel.OK := by constructor <;> constructor <;> decide +kernel
example : ser [([32], aMake), ([10, 32], aModel)] ++ 62 :: 60 :: [] =
    (" tiff:Make=\"Canon\"\n tiff:Model='EOS'><").toUTF8.toList := by rewrite [utf8_toList]; decide +kernel
example : (attrLoop none 5 {} { rest := (" tiff:Make=\"Canon\"\n tiff:Model='EOS'><").toUTF8.toList, a := true, toks := [] }).2.toks.map (·.val) =
    [[69, 79, 83], [67, 97, 110, 111, 110]] := by rewrite [utf8_toList]; decide +kernel

end Imeta.Props.C13
