/-
  C14 — Memory allocated by a decode is bounded by the input size, not by its contents.

  (1) Exif reader model: a string is made only from bytes that are actually in the stream (or from the 4-byte
      offset slot): the value handed to the string conversion is never longer than what the reader holds, whatever
      count the tag declares; one window of at most 4096 bytes per tag when the declared size exceeds the buffer.
  (2) Facts (regenerated): the complete list of allocation sites whose size is not a constant, in the decode-path
      packages. A new `make` / `NewReaderSize` / `Grow` with a computed size changes the list and breaks the theorem.
      The one site whose size comes straight from a file field without a bound is `preview.RenderPreview`
      (PRVW size), recorded as a known finding; `isobmff.readIloc` is bounded by its 16-bit count.
  The numeric bound 4 MiB + 16·len is decided by the search (`vh run C14`, MemStats in single-goroutine workers).
-/
import Imeta.Lemmas.ExifValue
import Imeta.Gen.Facts
namespace Imeta.Exif
open Imeta

theorem trimNUL_le (b : Bytes) : (trimNUL b).length ≤ b.length := by
  unfold trimNUL
  rw [List.length_reverse]
  have := (List.dropWhile_sublist isBlank (l := b.reverse)).length_le
  simpa using this

theorem fastRead_buf_le (r : R) (n : Nat) : (fastRead r n).buf.length ≤ r.rest.length ∧ (fastRead r n).buf.length ≤ max n bufioSize := by
  rcases fastRead_cases r n with ⟨_, hn, hb, _⟩ | ⟨_, _, h1, h2, _⟩
  · rw [hb, List.length_take]; omega
  · omega

theorem readTagValue_buf_le (r : R) (t : Tag) : (readTagValue r t).buf.length ≤ r.rest.length := by
  rw [readTagValue_buf]
  obtain ⟨r1, h1, ⟨_, e, _⟩ | e⟩ := readTagValue0_cases r t <;> rw [e]
  · exact Nat.zero_le _
  · exact Nat.le_trans (fastRead_buf_le r1 t.size).1 (Fr.of_adv h1).len

/-- **Strings come from delivered bytes**: whatever size a tag declares, the bytes turned into a string are at most
the bytes still in the stream (out-of-line) or the 4 bytes of the offset slot (embedded), and never more than one
4096-byte window plus the declared size. -/
theorem C14_string_from_stream (r : R) (t : Tag) (r' : R) (s : Bytes) (h : parseString r t = .ok (r', s)) :
    r'.alloc = r.alloc + s.length ∧ (s.length ≤ r.rest.length ∨ s.length ≤ 4) := by
  rw [parseString_eq] at h
  obtain ⟨s', hv, h⟩ := omap_eq_ok h
  cases h
  refine ⟨?_, ?_⟩
  · show (rdIf r t _).alloc + s.length = _
    unfold rdIf; split
    · rw [readTagValue_alloc]
    · rfl
  · have h1 := trimNUL_le ((embedded t).take t.size)
    have h2 : ((embedded t).take t.size).length ≤ 4 := by simp only [List.length_take]; have := embedded_len t; omega
    have h3 := trimNUL_le (readTagValue r t).buf
    have h4 := readTagValue_buf_le r t
    unfold parseStringV parseBytesV at hv
    split at hv
    · cases hv; exact Or.inr (by omega)
    · split at hv
      · cases hv; exact Or.inl (by omega)
      · cases hv; exact Or.inr (by simp)

/-- **Fact (regenerated)**: every allocation site with a computed size in the decode-path packages -/
theorem C14_alloc_sites : Imeta.Gen.Facts.allocSites = [
    "imagehash/transforms/dct.go:DCT1D:make([]float64, len(input))",
    "imagehash/transforms/dct.go:DCT2D:make([][]float64, h)",
    "imagehash/transforms/dct.go:DCT2D:make([]float64, h)",
    "imagehash/transforms/dct.go:DCT2D:make([]float64, w)",
    "imagehash/transforms/etcs.go:MedianOfPixels:make([]float64, len(pixels))",
    "imagehash/transforms/pixels.go:FlattenPixels:make([]float64, x * y)",
    "imagehash/transforms/pixels.go:Rgb2Gray:make([][]float64, h)",
    "imagehash/transforms/pixels.go:Rgb2Gray:make([]float64, w)",
    "imagehash/transforms32/pixels.go:FlattenPixels32:make([]float64, x * y)",
    "imagetype/scan.go:Scan:bufio.NewReaderSize(searchHeaderLength)",
    "isobmff/ftyp.go:minorBrandsToString:make([]string, maxBrandCount)",
    "isobmff/iloc.go:*Reader.readIloc:make([]ilocEntry, ilb.count)",
    "meta/canon/utils.go:ParseAFPoints:make([]AFPoint, validPoints)",
    "xmp/reader.go:newXMPReader:bufio.NewReaderSize(xmpBufferLength)"] := rfl

end Imeta.Exif
