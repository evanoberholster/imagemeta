/-
  C10 — JPEG segment framing: callbacks get exactly their payload; scanning resumes.

  Property theorems. Model: Imeta.Model.Jpeg (hand-written transcription of jpeg.ScanJPEG, tied to /repo
  by the correspondence `vh run C10`). Specification: Imeta.Spec.Jpeg (segment grammar, expected calls).
-/
import Imeta.Lemmas.JpegFraming
namespace Imeta.Jpeg
open Imeta

/-- The progress half (C02 for the JPEG scanner): the scan of any byte string, with any callbacks, finishes within
`len + 2` passes through the marker loop — it never iterates without consuming input. -/
theorem C10_scan_terminates (cb : Cbs) (b : Bytes) : (scan cb b).isSome = true :=
  run_terminates cb (b.length + 2) _ [] (by simp)

/-- **C10, main theorem.** For every well-formed marker stream `SOI, S1 … Sn, DQT …` followed by at least 64 bytes,
every XMP-callback consumption behaviour and an Exif callback that consumes its declared length, the model of
`ScanJPEG` returns `nil` having invoked exactly the callbacks the segment list demands, in order:
the Exif callback with the byte order and first-directory offset read from the payload, the absolute offset of the
TIFF header (`2 + Σ preceding segment lengths + 10`), the payload length, and a stream positioned on the payload;
the XMP callback with a reader yielding exactly the packet. Segments that are not metadata produce no call, whatever
their payload contains (0xFF bytes, nested SOI/EOI, near-miss prefixes). -/
theorem C10_scan_calls (cb : Cbs) (hcb : cb.wellBehaved) (segs : List Seg) (dqt : Bytes)
    (hwf : ∀ s ∈ segs, s.wf) (hd : 2 + (encodeAll segs).length < 2 ^ 32)
    (hdqt : ∃ hi lo rest, dqt = 0xFF :: 0xDB :: hi :: lo :: rest) (hlen : 64 ≤ dqt.length) :
    scan cb (0xFF :: 0xD8 :: (encodeAll segs ++ dqt)) = some (.ok, eventsAll cb 2 segs) := by
  obtain ⟨hi, lo, rest, hq⟩ := hdqt
  -- SOI, the segments, and the DQT marker that ends the scan: `segs.length + 2` passes
  have hq' : step cb { rest := dqt, discarded := 2 + (encodeAll segs).length, pos := 1 } = .done .ok [] := by
    subst hq
    rw [step_at_marker cb _ 0xDB hi lo rest rfl (by simp only [List.length_cons] at hlen; omega)]
    simp +decide only [↓reduceIte]
  have hsmall : run cb ((segs.length + 1) + 1) { rest := 0xFF :: 0xD8 :: (encodeAll segs ++ dqt), discarded := 0, pos := 0 } [] =
      some (.ok, eventsAll cb 2 segs) := by
    rw [run_succ, step_soi cb _ 0 0 (by simp only [List.length_append]; omega) (by decide)]
    show run cb (segs.length + 1) { rest := encodeAll segs ++ dqt, discarded := 2, pos := 1 } [] = _
    rw [run_segments cb hcb segs dqt 2 1 [] hwf hlen hd, run_succ, hq']
    simp
  -- the scan itself ends with the fuel it has, and more fuel does not change a finished scan
  obtain ⟨x, hx⟩ := Option.isSome_iff_exists.mp (C10_scan_terminates cb (0xFF :: 0xD8 :: (encodeAll segs ++ dqt)))
  rw [hx, ← run_mono cb _ (max _ _) _ _ _ hsmall (Nat.le_max_left _ _), ← run_mono cb _ (max _ _) _ _ _ hx (Nat.le_max_right _ _)]

/-- non-vacuity: XMP before Exif, an APP2 segment with 0xFF bytes and a nested SOI/EOI in between; the Exif header
offset is absolute whatever the XMP callback consumed (here: 3 of 12 bytes) -/
def exampleSegs : List Seg :=
  [.xmp [60, 120, 58, 120, 109, 112, 109, 101, 116, 97, 47, 62],
   .skip 0xE2 ([0xFF, 0xD8, 0xFF, 0xD9, 0xFF, 0xE1] ++ List.replicate 30 0xFF),
   .exif [0x4d, 0x4d, 0, 0x2a, 0, 0, 0, 8, 1, 2, 3, 4]]
def exampleDqt : Bytes := [0xFF, 0xDB, 0, 4, 1, 2] ++ List.replicate 64 7
def exampleCbs : Cbs := { hasExif := true, hasXmp := true, exif := fun h _ => (h.exifLength, false), xmp := fun _ => (3, false) }

example : scan exampleCbs (0xFF :: 0xD8 :: (encodeAll exampleSegs ++ exampleDqt)) =
    some (.ok, [.xmp [60, 120, 58, 120, 109, 112, 109, 101, 116, 97, 47, 62],
                .exif { order := .big, firstIfd := 8, tiffOffset := 97, exifLength := 12 } [0x4d, 0x4d, 0, 0x2a, 0, 0, 0, 8, 1, 2, 3, 4]]) := by
  decide +kernel

/-- **Fill bytes.**  Any marker may be preceded by any number of 0xFF fill bytes (ITU-T T.81 B.1.1.2): inside an image or
outside, a 0xFF that is followed by another 0xFF is skipped — one byte consumed, the absolute offset advanced by one,
nothing reported — so the scan reaches the marker behind the padding in the state it would have there (the pinned tree took
`FF FF` for a marker of type 0xFF and skipped a bogus length; repaired). -/
theorem C10_fill_byte_skipped (cb : Cbs) (a b : UInt8) (t : Bytes) (d pos : Nat) (hlen : 60 ≤ t.length) (hd : d + 1 < 2 ^ 32) :
    step cb { rest := 0xFF :: 0xFF :: a :: b :: t, discarded := d, pos := pos } =
      .next { rest := 0xFF :: a :: b :: t, discarded := d + 1, pos := pos } [] := by
  rw [step_at_marker cb _ 0xFF a b t rfl hlen]
  simp only [BEq.rfl, ↓reduceIte]
  exact congrArg (finish · []) (discard_prefix [0xFF] (0xFF :: a :: b :: t) d pos 1 rfl hd)

end Imeta.Jpeg
