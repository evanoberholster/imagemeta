/-
  C06 — The container does not change the metadata: same Exif payload, same result.

  The proved part is the *hand-off*: each container scanner gives the Exif reader a header that is a function of
  the payload alone (byte order and first-IFD offset read from the payload's own TIFF header, length = payload
  length) and a stream positioned on the payload, whatever surrounds it:
    * JPEG  — `Jpeg.C10_scan_calls` (any segments before/after, any XMP-callback behaviour);
    * TIFF / HEIF — `Tiff.C12_scan_first_signature` (any prefix without an earlier signature);
    * PNG   — `C06_png_handoff` below (any chunks before and after the eXIf chunk).
  That the reader then produces identical fields from identical (header, payload) is the reader model applied to
  equal arguments; equality across the three entry variants (position / length bookkeeping) is decided by the
  search of `vh run C06`, not by a theorem (recorded as partial in the evidence).
-/
import Imeta.Lemmas.Png
import Imeta.Lemmas.ExifNested
import Imeta.Lemmas.ExifField
namespace Imeta.Png
open Imeta

structure Chunk where
  typ : Bytes
  data : Bytes
  crc : Bytes

def Chunk.encode (c : Chunk) : Bytes := beBytes 4 c.data.length ++ c.typ ++ c.data ++ c.crc

def Chunk.wf (c : Chunk) : Prop := c.typ.length = 4 ∧ c.crc.length = 4 ∧ c.data.length + 4 < 2 ^ 32 ∧ c.typ ≠ eXIf

def encodeChunks : List Chunk → Bytes
  | [] => []
  | c :: t => c.encode ++ encodeChunks t

theorem Chunk.encode_length (c : Chunk) (h : c.wf) : c.encode.length = 8 + (c.data.length + 4) := by
  simp only [Chunk.encode, List.length_append, beBytes_length, h.1, h.2.1]; omega

theorem chunks_skip (b : Bytes) (cs : List Chunk) (tail : Bytes) (fuel pos : Nat) (hwf : ∀ c ∈ cs, c.wf)
    (h : b.drop pos = encodeChunks cs ++ tail) :
    chunks b (cs.length + fuel) pos = chunks b fuel (pos + (encodeChunks cs).length) := by
  induction cs generalizing pos with
  | nil => simp [encodeChunks]
  | cons c t ih =>
    have hc := hwf c (by simp)
    rw [encodeChunks, List.append_assoc] at h
    rw [show (c :: t).length + fuel = (t.length + fuel) + 1 by simp; omega,
      chunks_step b c.typ (c.data ++ c.crc ++ (encodeChunks t ++ tail)) c.data.length _ pos
        (by rw [h]; simp [Chunk.encode, List.append_assoc]) hc.1 hc.2.2.2 hc.2.2.1,
      Nat.add_assoc, ← c.encode_length hc,
      ih _ (fun x hx => hwf x (by simp [hx])) (by rw [← List.drop_drop, h, List.drop_left])]
    simp [encodeChunks, Nat.add_assoc]

theorem encodeChunks_len (cs : List Chunk) (hwf : ∀ c ∈ cs, c.wf) : 12 * cs.length ≤ (encodeChunks cs).length := by
  induction cs with
  | nil => simp [encodeChunks]
  | cons c t ih =>
    have := ih (fun x hx => hwf x (by simp [hx]))
    simp only [encodeChunks, List.length_append, List.length_cons, c.encode_length (hwf c (by simp))]
    omega

/-- **PNG hand-off**: for every list of well-formed chunks before the eXIf chunk, every payload `p` that starts with
a TIFF header and everything that follows, `ScanPngHeader` reports the payload's own byte order and first-IFD
offset, the absolute offset of the payload and its length — independent of the surrounding chunks. -/
theorem C06_png_handoff (cs : List Chunk) (p crc post : Bytes) (hwf : ∀ c ∈ cs, c.wf)
    (hp8 : 8 ≤ p.length) (hp : p.length + 4 < 2 ^ 32) (hsig : Tiff.binaryOrder (p.take 8) ≠ .unknown)
    (hoff : 8 + (encodeChunks cs).length + 8 < 2 ^ 32) :
    scan (signature ++ encodeChunks cs ++ (beBytes 4 p.length ++ eXIf ++ p ++ crc ++ post)) =
      .ok { order := Tiff.binaryOrder (p.take 8), firstIfd := (Tiff.binaryOrder (p.take 8)).uint (((p.take 8).drop 4).take 4),
            tiffOffset := 8 + (encodeChunks cs).length + 8, exifLength := p.length } := by
  generalize hb : signature ++ encodeChunks cs ++ (beBytes 4 p.length ++ eXIf ++ p ++ crc ++ post) = b
  -- the signature, the chunks and the eXIf chunk, each where the walk looks for it
  have h0 : b.drop 0 = signature ++ (encodeChunks cs ++ (beBytes 4 p.length ++ eXIf ++ p ++ crc ++ post)) := by
    rw [← hb]; simp [List.append_assoc]
  have h8 : b.drop 8 = encodeChunks cs ++ (beBytes 4 p.length ++ eXIf ++ p ++ crc ++ post) := by
    simpa using (field_at h0 (show signature.length = 8 from rfl)).2
  have hx : b.drop (8 + (encodeChunks cs).length) = (beBytes 4 p.length ++ eXIf) ++ (p.take 8 ++ (p.drop 8 ++ (crc ++ post))) := by
    rw [← List.drop_drop, h8, List.drop_left]
    simp only [List.append_assoc]
    rw [← List.append_assoc (List.take 8 p), List.take_append_drop]
  unfold scan
  rw [read8_of_drop h0 rfl]
  simp only [BEq.rfl, if_true]
  -- fuel: the chunks before eXIf, and one more round
  obtain ⟨f, hf⟩ : ∃ f, b.length / 8 + 2 = cs.length + (f + 1) := by
    have h1 := encodeChunks_len cs hwf
    have := congrArg List.length h8
    simp only [List.length_drop, List.length_append] at this
    exact ⟨b.length / 8 + 2 - cs.length - 1, by omega⟩
  rw [hf, chunks_skip b cs _ (f + 1) 8 hwf h8,
    chunks_exif b (p.take 8) _ p.length f _ hx (by simp; omega) (by omega) hsig, Nat.mod_eq_of_lt hoff]

end Imeta.Png

namespace Imeta.Exif
open Imeta

/-- **The same payload is read the same way through every entry variant.**  For one payload F (from its Tiff header on)
with IFD0, Exif and GPS directories in a forward layout without overlap (`World`, `DirOK`, see C03): DecodeTiff (TIFF
files, PNG eXIf, HEIF), DecodeJPEGIfd (JPEG APP1, with the segment's Exif length) and DecodeIfd (CR3 CMT boxes, stream
starting at the first directory) each make only successful reads and each read returns exactly F[t.off, t.off+t.size) —
so every field parser is handed the same bytes whichever container carried the payload. -/
theorem C06_same_payload_same_reads (tb : Tables) (F : Bytes) (buffered : Bool) (h : Hdr) (cnt : Nat) (W : Tag → Prop)
    (hsmall : F.length < 2 ^ 32) (hfi : h.firstIfd ≤ F.length)
    (w : World F h.exifLength (if buffered then bufioSize else scratchSize) W)
    (w4 : World F (4 * 1024 * 1024) (if buffered then bufioSize else scratchSize) W)
    (hroot : DirOK F { off := 0, base := 0, order := h.order, typ := h.firstIfdType, idx := 0 } h.firstIfd cnt h.exifLength
      (if buffered then bufioSize else scratchSize) (extent F))
    (hroot4 : DirOK F { off := 0, base := 0, order := h.order, typ := h.firstIfdType, idx := 0 } h.firstIfd cnt (4 * 1024 * 1024)
      (if buffered then bufioSize else scratchSize) (extent F))
    (hrootW : ∀ x, IsEntry F { off := 0, base := 0, order := h.order, typ := h.firstIfdType, idx := 0 } h.firstIfd cnt x ∨
      IsStubEntry F { off := 0, base := 0, order := h.order, typ := h.firstIfdType, idx := 0 } h.firstIfd cnt x → W x) :
    (∀ r' e, decodeTiff tb F buffered h = .ok (r', e) → Coh F r' ∧ Exact tb { imageType := h.imageType } F r') ∧
    (∀ r' e, decodeJPEGIfd tb F buffered h = .ok (r', e) → Coh F r' ∧ Exact tb { imageType := h.imageType } F r') ∧
    (∀ r' e, decodeIfd tb (F.drop h.firstIfd) buffered h = .ok (r', e) → Coh F r' ∧ Exact tb { imageType := h.imageType } F r') :=
  ⟨fun r' e hr => let hn := decodeTiff_nested tb F buffered h cnt r' e W hsmall w4 hroot4 hrootW hr; ⟨hn.1, hn.2.1⟩,
   fun r' e hr => decodeJPEGIfd_nested tb F buffered h cnt r' e W hsmall w hroot hrootW hr,
   fun r' e hr => decodeIfd_nested tb F (F.drop h.firstIfd) buffered h cnt r' e W hsmall rfl hfi w hroot hrootW hr⟩

/-- **The same payload gives the same field through every entry variant** (Software; the other single-writer fields of
Lemmas/ExifField likewise, through the same `Owns.exact`): if `a` is the last Software entry each variant parsed — it is the same entry, since
all three read the same directories of F — then DecodeTiff, DecodeJPEGIfd and DecodeIfd all report
F[a.off, a.off+a.size) minus trailing padding: the container contributes nothing to the value. -/
theorem C06_same_payload_same_software (tb : Tables) (F : Bytes) (buffered : Bool) (h : Hdr) (cnt : Nat) (W : Tag → Prop)
    (hsmall : F.length < 2 ^ 32) (hfi : h.firstIfd ≤ F.length)
    (w : World F h.exifLength (if buffered then bufioSize else scratchSize) W)
    (w4 : World F (4 * 1024 * 1024) (if buffered then bufioSize else scratchSize) W)
    (hroot : DirOK F { off := 0, base := 0, order := h.order, typ := h.firstIfdType, idx := 0 } h.firstIfd cnt h.exifLength
      (if buffered then bufioSize else scratchSize) (extent F))
    (hroot4 : DirOK F { off := 0, base := 0, order := h.order, typ := h.firstIfdType, idx := 0 } h.firstIfd cnt (4 * 1024 * 1024)
      (if buffered then bufioSize else scratchSize) (extent F))
    (hrootW : ∀ x, IsEntry F { off := 0, base := 0, order := h.order, typ := h.firstIfdType, idx := 0 } h.firstIfd cnt x ∨
      IsStubEntry F { off := 0, base := 0, order := h.order, typ := h.firstIfdType, idx := 0 } h.firstIfd cnt x → W x)
    (a : Tag) (h0 : a.ifd = ifd0) (hid : a.id = 0x0131) (hemb : a.isEmbedded = false) (hasc : isASCII a = true)
    (r1 r2 r3 : R) (e1 e2 e3 : Option ErrKind)
    (hr1 : decodeTiff tb F buffered h = .ok (r1, e1)) (hr2 : decodeJPEGIfd tb F buffered h = .ok (r2, e2))
    (hr3 : decodeIfd tb (F.drop h.firstIfd) buffered h = .ok (r3, e3))
    (pre1 post1 pre2 post2 pre3 post3 : List Tag)
    (hs1 : r1.parsed = pre1 ++ a :: post1) (hp1 : ∀ t ∈ post1, ¬(t.ifd = ifd0 ∧ t.id = 0x0131))
    (hs2 : r2.parsed = pre2 ++ a :: post2) (hp2 : ∀ t ∈ post2, ¬(t.ifd = ifd0 ∧ t.id = 0x0131))
    (hs3 : r3.parsed = pre3 ++ a :: post3) (hp3 : ∀ t ∈ post3, ¬(t.ifd = ifd0 ∧ t.id = 0x0131)) :
    r1.ex.software = trimNUL (slice F a) ∧ r2.ex.software = r1.ex.software ∧ r3.ex.software = r1.ex.software := by
  obtain ⟨t1, t2, t3⟩ := C06_same_payload_same_reads tb F buffered h cnt W hsmall hfi w w4 hroot hroot4 hrootW
  have a1 := (owns_software tb).exact_eq (t1 r1 e1 hr1).2 hs1 h0 hid hp1 (parseStringV_outOfLine hemb hasc)
  have a2 := (owns_software tb).exact_eq (t2 r2 e2 hr2).2 hs2 h0 hid hp2 (parseStringV_outOfLine hemb hasc)
  have a3 := (owns_software tb).exact_eq (t3 r3 e3 hr3).2 hs3 h0 hid hp3 (parseStringV_outOfLine hemb hasc)
  exact ⟨a1, by rw [a2, a1], by rw [a3, a1]⟩

end Imeta.Exif

