/-
  C13 — a whole packet: parse(serialise(p, s)) = p at the level of the token stream (Lemmas/XmpPacket.lean).
-/
import Imeta.Props.C13g
namespace Imeta.Props.C13
open Imeta Imeta.Xmp

/-- **A whole packet is parsed exactly.**  Any leading bytes (stretches without `<x:xmpmeta`), the root start tag with its
namespace attributes, `<rdf:RDF attrs>`, one `<rdf:Description attrs>` carrying simple properties as attributes (either quote,
any white space) and, as children in any order with any white space between them, simple properties in element form and
array properties (rdf:Seq / rdf:Bag / rdf:Alt with their items), the stop tags, any trailing bytes.  ParseXmp of the model
returns without error and has handed the value parsers exactly the tokens of the record — namespace attributes of rdf:RDF,
attribute-form properties, element-form properties and array items, each with the property `identify ns name` and exactly
its value — in document order.  Names and values lie within the first look-ahead windows (`Attr.OK`, `Elem.OK`, `Child.OK`);
the two bookkeeping hypotheses on nesting rounds (`hokc`, last component, and `hcs`) hold for every packet (an item takes
more bytes than the two rounds it needs).  Together with `C13_attribute_element_same_tokens` this is the property's
`parse(serialise(p, s)) = p` and `parse(serialise(p, attr)) = parse(serialise(p, elem))` at the level of the token stream;
the value parsers behind the token stream are tied by the correspondence through the hook. -/
theorem C13_packet_exact (b : Bytes) (gs : List Bytes) (g A : Bytes) (RDF D : Name) (laR laD : List (Bytes × Attr)) (cs : List (Bytes × Child))
    (wsR wsV1 wsV2 ws2 ws3 ws4 tail X2 : Bytes)
    (hb : b = serJ gs (g ++ 60 :: (rootName ++ A ++ 62 :: packetBody RDF D laR laD cs wsR wsV1 wsV2 ws2 ws3 ws4 tail)))
    (hj : JunkOK gs (g ++ 60 :: (rootName ++ A ++ 62 :: packetBody RDF D laR laD cs wsR wsV1 wsV2 ws2 ws3 ws4 tail)))
    (hg : ∀ x ∈ g, (x == 60) = false) (hglen : g.length < W) (hA : ∀ x ∈ A, (x == 62) = false) (hAlen : 9 + A.length < W)
    (hX2 : 60 :: X2 = serC cs (ws2 ++ D.closeT (ws3 ++ RDF.closeT (ws4 ++ nRoot.closeT tail))))
    (hRDF : RDF.OK) (hRseq : (RDF.prop == rdfSeq || RDF.prop == rdfAlt || RDF.prop == rdfBag) = false) (hRroot : (RDF.prop == rootProp) = false)
    (hD : D.OK) (hDseq : (D.prop == rdfSeq || D.prop == rdfAlt || D.prop == rdfBag) = false) (hDroot : (D.prop == rootProp) = false)
    (hwsR : ∀ x ∈ wsR, (x == 60) = false) (hwinR : wsR.length + 128 ≤ W)
    (hlaR : laR ≠ []) (hokR : ∀ p ∈ laR, (∀ x ∈ p.1, isWs x = true) ∧ p.1 ≠ [] ∧ p.2.OK)
    (hwsV1 : ∀ x ∈ wsV1, isWs x = true) (hwinV1 : wsV1.length < 512)
    (hlaD : laD ≠ []) (hokD : ∀ p ∈ laD, (∀ x ∈ p.1, isWs x = true) ∧ p.1 ≠ [] ∧ p.2.OK)
    (hwsV2 : ∀ x ∈ wsV2, isWs x = true) (hwinV2 : wsV2.length < 512)
    (hokc : ∀ p ∈ cs, (∀ x ∈ p.1, (x == 60) = false) ∧ p.1.length + 128 ≤ W ∧ p.2.OK ∧ p.2.need + cs.length ≤ b.length + 6)
    (hws2 : ∀ x ∈ ws2, (x == 60) = false) (hwin2 : ws2.length + 128 ≤ W)
    (hws3 : ∀ x ∈ ws3, (x == 60) = false) (hwin3 : ws3.length + 128 ≤ W)
    (hws4 : ∀ x ∈ ws4, (x == 60) = false) (hwin4 : ws4.length + 128 ≤ W)
    (hcs : cs.length ≤ b.length + 5) :
    parseXmp b = (.ok (), (pushC D.prop cs (pushAll D.prop laD (pushAll RDF.prop laR []))).reverse) :=
  parseXmp_packet_exact b gs g A RDF D laR laD cs wsR wsV1 wsV2 ws2 ws3 ws4 tail X2 hb hj hg hglen hA hAlen hX2 hRDF hRseq hRroot hD hDseq hDroot
    hwsR hwinR hlaR hokR hwsV1 hwinV1 hlaD hokD hwsV2 hwinV2 hokc hws2 hwin2 hws3 hwin3 hws4 hwin4 hcs

/-! non-vacuity: a packet of the shape the theorem describes, and what the model makes of it -/
def pkt : Bytes := ("<?xpacket begin=\"\" id=\"W5M0\"?>\n<x:xmpmeta xmlns:x=\"adobe:ns:meta/\">\n <rdf:RDF xmlns:rdf=\"http://www.w3.org/1999/02/22-rdf-syntax-ns#\">\n  <rdf:Description tiff:Make=\"Canon\">\n   <dc:subject><rdf:Bag><rdf:li>sea</rdf:li><rdf:li>sky</rdf:li></rdf:Bag></dc:subject>\n   <tiff:Model>EOS</tiff:Model>\n  </rdf:Description>\n </rdf:RDF>\n</x:xmpmeta>\n<?xpacket end=\"w\"?>").toUTF8.toList
def nRDF : Name := { n0 := 114, ns := [100, 102], name := [82, 68, 70] }
def aXmlns : Attr := { n0 := 120, ns := [109, 108, 110, 115], m0 := 114, name := [100, 102], q := 34, v := ("http://www.w3.org/1999/02/22-rdf-syntax-ns#").toUTF8.toList }
/-- the packet is an instance of the theorem's serialisation -/
example : pkt = serJ [[]] ((("?xpacket begin=\"\" id=\"W5M0\"?>\n").toUTF8.toList) ++ 60 :: (rootName ++ (" xmlns:x=\"adobe:ns:meta/\"").toUTF8.toList ++ 62 ::
    packetBody nRDF nDesc [([32], aXmlns)] [([32], aMake)] [([], cSubject), ([10, 32, 32, 32], .elem eModel)]
      [10, 32] [10, 32, 32] [10, 32, 32, 32] [10, 32, 32] [10, 32] [10] ("\n<?xpacket end=\"w\"?>").toUTF8.toList)) := by
  rewrite [pkt, utf8_toList, utf8_toList, utf8_toList, utf8_toList]; decide +kernel
example : nRDF.OK ∧ aXmlns.OK ∧ (nRDF.prop == rdfSeq || nRDF.prop == rdfAlt || nRDF.prop == rdfBag) = false ∧ (nRDF.prop == rootProp) = false := by
  refine ⟨⟨by decide, by decide, by decide, by decide⟩, ⟨by decide, by decide, by decide, by decide, by decide, by decide +kernel, by decide, by decide +kernel⟩, by decide +kernel, by decide +kernel⟩
/-- and the model run on it: no error; xmlns:rdf, tiff:Make, two dc:subject items, tiff:Model — document order -/
example : (match (parseXmp pkt).1 with | .ok _ => true | .error _ => false) = true ∧ (parseXmp pkt).2.map (fun t => (t.pt, t.val.length)) = [(1, 43), (1, 5), (2, 3), (2, 3), (2, 3)] := by
  generalize hp : pkt = p
  revert p
  rewrite [pkt, utf8_toList]
  intro p hp; subst hp
  decide +kernel

end Imeta.Props.C13
