/-
  C13 — a whole packet with several rdf:Description elements (Lemmas/XmpPacket.lean).
-/
import Imeta.Props.C13h
namespace Imeta.Props.C13
open Imeta Imeta.Xmp

/-- **A whole packet with any number of Descriptions** (one per namespace, as exiftool writes them; one for everything, as
Adobe's toolkit does): leading bytes, the root start tag, `<rdf:RDF attrs>`, the Descriptions — each with its attribute-form
properties and its element-form / array children in any order — with any white space between all of them, the stop tags,
trailing bytes.  ParseXmp of the model returns without error having handed the value parsers exactly the tokens of all the
records, in document order.  `DescR.OK` collects what `C13_description_record_exact` asks of one Description; its nesting
budget `b.length + 7 − (number of Descriptions)` is met by every packet. -/
theorem C13_packet_descriptions_exact (b : Bytes) (gs : List Bytes) (g A : Bytes) (RDF : Name) (laR : List (Bytes × Attr)) (ds : List (Bytes × DescR))
    (wsR wsV1 ws3 ws4 tail X1 : Bytes)
    (hb : b = serJ gs (g ++ 60 :: (rootName ++ A ++ 62 :: packetBodyN RDF laR ds wsR wsV1 ws3 ws4 tail)))
    (hj : JunkOK gs (g ++ 60 :: (rootName ++ A ++ 62 :: packetBodyN RDF laR ds wsR wsV1 ws3 ws4 tail)))
    (hg : ∀ x ∈ g, (x == 60) = false) (hglen : g.length < W) (hA : ∀ x ∈ A, (x == 62) = false) (hAlen : 9 + A.length < W)
    (hX1 : 60 :: X1 = serDs ds (ws3 ++ RDF.closeT (ws4 ++ nRoot.closeT tail)))
    (hRDF : RDF.OK) (hRseq : (RDF.prop == rdfSeq || RDF.prop == rdfAlt || RDF.prop == rdfBag) = false) (hRroot : (RDF.prop == rootProp) = false)
    (hwsR : ∀ x ∈ wsR, (x == 60) = false) (hwinR : wsR.length + 128 ≤ W)
    (hlaR : laR ≠ []) (hokR : ∀ p ∈ laR, (∀ x ∈ p.1, isWs x = true) ∧ p.1 ≠ [] ∧ p.2.OK)
    (hwsV1 : ∀ x ∈ wsV1, isWs x = true) (hwinV1 : wsV1.length < 512)
    (hokd : ∀ p ∈ ds, (∀ x ∈ p.1, (x == 60) = false) ∧ p.1.length + 128 ≤ W ∧ p.2.OK (b.length + 7 - ds.length))
    (hws3 : ∀ x ∈ ws3, (x == 60) = false) (hwin3 : ws3.length + 128 ≤ W)
    (hws4 : ∀ x ∈ ws4, (x == 60) = false) (hwin4 : ws4.length + 128 ≤ W)
    (hds : ds.length ≤ b.length + 6) :
    parseXmp b = (.ok (), (pushDs ds (pushAll RDF.prop laR [])).reverse) :=
  parseXmp_packetN_exact b gs g A RDF laR ds wsR wsV1 ws3 ws4 tail X1 hb hj hg hglen hA hAlen hX1 hRDF hRseq hRroot hwsR hwinR hlaR hokR hwsV1 hwinV1
    hokd hws3 hwin3 hws4 hwin4 hds

/-! non-vacuity: two Descriptions, exiftool style -/
def pkt2 : Bytes := ("<x:xmpmeta xmlns:x=\"adobe:ns:meta/\">\n<rdf:RDF xmlns:rdf=\"http://www.w3.org/1999/02/22-rdf-syntax-ns#\">\n <rdf:Description tiff:Make=\"Canon\">\n  <tiff:Model>EOS</tiff:Model>\n </rdf:Description>\n <rdf:Description tiff:Make=\"Canon\">\n  <dc:subject><rdf:Bag><rdf:li>sea</rdf:li><rdf:li>sky</rdf:li></rdf:Bag></dc:subject>\n </rdf:Description>\n</rdf:RDF>\n</x:xmpmeta>").toUTF8.toList
def d1 : DescR := { D := nDesc, wsV := [10, 32, 32], ws2 := [10, 32], la := [([32], aMake)], cs := [([], .elem eModel)] }
def d2 : DescR := { D := nDesc, wsV := [10, 32, 32], ws2 := [10, 32], la := [([32], aMake)], cs := [([], cSubject)] }
example : pkt2 = serJ [] ([] ++ 60 :: (rootName ++ (" xmlns:x=\"adobe:ns:meta/\"").toUTF8.toList ++ 62 ::
    packetBodyN nRDF [([32], aXmlns)] [([], d1), ([10, 32], d2)] [10] [10, 32] [10] [10] [])) := by
  rewrite [pkt2, utf8_toList, utf8_toList]; decide +kernel
example : (match (parseXmp pkt2).1 with | .ok _ => true | .error _ => false) = true ∧
    (parseXmp pkt2).2.map (fun t => (t.pt, t.val.length)) = [(1, 43), (1, 5), (2, 3), (1, 5), (2, 3), (2, 3)] := by
  generalize hp : pkt2 = p
  revert p
  rewrite [pkt2, utf8_toList]
  intro p hp; subst hp
  decide +kernel
example : (∀ T, ∃ X, 60 :: X = serC d1.cs (d1.ws2 ++ d1.D.closeT T)) ∧ (∀ T, ∃ X, 60 :: X = serC d2.cs (d2.ws2 ++ d2.D.closeT T)) :=
  ⟨fun _ => ⟨_, rfl⟩, fun _ => ⟨_, rfl⟩⟩

end Imeta.Props.C13
