/-
  C13 — a whole rdf:Description with attributes, simple child elements and array properties in any order
  (Lemmas/XmpTree.lean).
-/
import Imeta.Props.C13e
namespace Imeta.Props.C13
open Imeta Imeta.Xmp

/-- **Children of both kinds, in any order.**  The reader stands inside an element with no attribute pending; the stream
holds simple elements (`Child.elem`) and array properties (`Child.arr`: `<P> <A> items </A> </P>`) in any order, each
behind any run of bytes other than '<'; `F` rounds of nesting are available for the deepest child.  One round of readTag
per child: exactly the tokens of each child, in document order; exactly the children are consumed. -/
theorem C13_children_exact (parent : Tag) (R : Bytes) (cs : List (Bytes × Child)) (F : Nat) (st : St)
    (ha : st.a = false) (hr : st.rest = serC cs R)
    (hok : ∀ p ∈ cs, (∀ x ∈ p.1, (x == 60) = false) ∧ p.1.length + 128 ≤ W ∧ p.2.OK ∧ p.2.need ≤ F) :
    readTag (F + cs.length) parent st = readTag F parent { rest := R, a := false, toks := pushC parent.self cs st.toks } :=
  (children_walk parent cs F hok).run F R st (Nat.le_refl _) ha hr

/-- **The record of one rdf:Description.**  `ws0 <D attrs> wsV children ws2 </D>` with a non-empty attribute list and children
of both kinds in any order: one round of readTag hands the parser layer exactly — in document order — one token per
attribute with a non-empty value, one token per simple element, and one token per array item (the array's property, the
item's value); it consumes exactly the element and goes on behind it.  This is `parse (serialise p s) = p` at the level of
the token stream, for every record p of simple and array properties and every serialisation s that chooses attribute or
element form per simple property, either quote, any order, any white space between tokens (values and tags within the
first look-ahead windows; see `Attr.OK`, `Elem.OK`, `Child.OK`).  The hypothesis `hla` is not needed: `readTag_wrap`, of which
this is an instance, covers a tag without attributes. -/
theorem C13_description_record_exact (parent : Tag) (st : St) (D : Name) (ws0 wsV X ws2 R : Bytes)
    (la : List (Bytes × Attr)) (cs : List (Bytes × Child)) (f : Nat)
    (hr : st.rest = ws0 ++ 60 :: ((D.n0 :: D.ns) ++ 58 :: (D.name ++ (ser la ++ 62 :: (wsV ++ 60 :: X)))))
    (hX : 60 :: X = serC cs (ws2 ++ D.closeT R))
    (hD : D.OK) (hDseq : (D.prop == rdfSeq || D.prop == rdfAlt || D.prop == rdfBag) = false) (hDroot : (D.prop == rootProp) = false)
    (hws0 : ∀ x ∈ ws0, (x == 60) = false) (hwin0 : ws0.length + 128 ≤ W)
    (hla : la ≠ []) (hoka : ∀ p ∈ la, (∀ x ∈ p.1, isWs x = true) ∧ p.1 ≠ [] ∧ p.2.OK)
    (hwsV : ∀ x ∈ wsV, isWs x = true) (hwinV : wsV.length < 512)
    (hokc : ∀ p ∈ cs, (∀ x ∈ p.1, (x == 60) = false) ∧ p.1.length + 128 ≤ W ∧ p.2.OK ∧ p.2.need ≤ f + 1)
    (hws2 : ∀ x ∈ ws2, (x == 60) = false) (hwin2 : ws2.length + 128 ≤ W) :
    readTag (f + 2 + cs.length) parent st =
      readTag (f + 1 + cs.length) parent { rest := R, a := false, toks := pushC D.prop cs (pushAll D.prop la st.toks) } := by
  rw [show f + 2 + cs.length = f + 1 + cs.length + 1 by omega]
  exact (children_walk { t := .start, parent := parent.self, self := D.prop } cs (f + 1) hokc).wrap (Nat.le_add_left 1 f) (serC_length cs)
    la wsV ws2 ⟨hD, hDseq, hDroot⟩ hoka hwsV hwinV ⟨hws2, hwin2⟩ _ st ws0 R (Nat.le_refl _) (by rw [hr, hX]; rfl) ⟨hws0, hwin0⟩ ⟨X, hX⟩

/-! non-vacuity: `<rdf:Description tiff:Make="Canon"><dc:subject><rdf:Bag><rdf:li>sea</rdf:li><rdf:li>sky</rdf:li></rdf:Bag></dc:subject>\n<tiff:Model>EOS</tiff:Model></rdf:Description>` -/
def cSubject : Child := .arr nSubject nBag [] [] [] [([], liSea), ([], liSky)]
example : cSubject.OK ∧ (Child.elem eModel).OK ∧ cSubject.need ≤ 6 := by
  refine ⟨⟨⟨by decide, by decide, by decide, by decide⟩, ⟨by decide, by decide, by decide, by decide⟩, by decide, by decide, by decide, by decide, by decide, by decide,
    by decide +kernel, by decide +kernel, by decide +kernel, ?_⟩, ⟨by decide, by decide, by decide, by decide, by decide, by decide, by decide, by decide +kernel, by decide +kernel⟩, by decide⟩
  intro p hp
  have : p = ([], liSea) ∨ p = ([], liSky) := by simpa using hp
  rcases this with rfl | rfl
  · exact ⟨by decide, by decide, ⟨by decide, by decide, by decide, by decide, by decide, by decide, by decide⟩, by decide +kernel⟩
  · exact ⟨by decide, by decide, ⟨by decide, by decide, by decide, by decide, by decide, by decide, by decide⟩, by decide +kernel⟩
example : [] ++ 60 :: ((nDesc.n0 :: nDesc.ns) ++ 58 :: (nDesc.name ++ (ser [([32], aMake)] ++ 62 :: ([] ++ serC [([], cSubject), ([10], .elem eModel)] ([] ++ nDesc.closeT []))))) =
    ("<rdf:Description tiff:Make=\"Canon\"><dc:subject><rdf:Bag><rdf:li>sea</rdf:li><rdf:li>sky</rdf:li></rdf:Bag></dc:subject>\n<tiff:Model>EOS</tiff:Model></rdf:Description>").toUTF8.toList := by rewrite [utf8_toList]; decide +kernel
/-- the model run on those bytes: attribute, two array items, element — document order -/
example : ((readTag 12 {} { rest := ("<rdf:Description tiff:Make=\"Canon\"><dc:subject><rdf:Bag><rdf:li>sea</rdf:li><rdf:li>sky</rdf:li></rdf:Bag></dc:subject>\n<tiff:Model>EOS</tiff:Model></rdf:Description></rdf:RDF>").toUTF8.toList, a := false, toks := [] }).2.toks.reverse.map (fun t => (t.pt, t.self, t.val))) =
    [(1, aMake.prop, [67, 97, 110, 111, 110]), (2, nSubject.prop, [115, 101, 97]), (2, nSubject.prop, [115, 107, 121]), (2, eModel.prop, [69, 79, 83])] := by rewrite [utf8_toList]; decide +kernel

end Imeta.Props.C13
