/-
  C11 — ISOBMFF box containment: no read escapes its box; CR3 payloads and the HEIF Exif item (mdat) delivered whole.

  The model (Imeta/Model/Bmff.lean) is tied to isobmff/*.go by the correspondence on generated box trees
  (harness/cmd/vh/c11.go); the theorems below hold for every byte stream, every nesting and every size field.
-/
import Imeta.Lemmas.BmffTotal
import Imeta.Lemmas.BmffIloc
namespace Imeta.Props.C11
open Imeta Imeta.Bmff

/-- the size a box header declares (what readBox / readInnerBox compute from the 16 peeked bytes) -/
def declSize (buf : Bytes) : Int :=
  if ((be32 buf : Nat) : Int) == 1 then toI64 (beNat ((buf.drop 8).take 8)) else ((be32 buf : Nat) : Int)

/-- what one top-level call (ReadFTYP / ReadMetadata) may do to the stream, for ANY handler that works through the
box operations: it never passes the end the box header declares, and leaves no box open. -/
theorem top_box_contained (body : Bytes → M Unit) (hb : ∀ t, Pres (body t)) (s : St) (hs : s.chain = []) :
    (topBox body s).2.chain = [] ∧ s.pos ≤ (topBox body s).2.pos ∧
    ((topBox body s).2.pos : Int) ≤ s.pos + max (declSize (s.rest.take 16)) 0 ∧
    (topBox body s).2.pos + (topBox body s).2.rest.length = s.pos + s.rest.length := by
  rcases topBox_run body s hs with ⟨k, h⟩ | ⟨sz, hdr, _, _, hsz, h⟩ <;> rw [h]
  · exact ⟨hs, Nat.le_refl _, by simp only; omega, rfl⟩
  · have hd : declSize (s.rest.take 16) = sz := hsz.symm
    rw [hd]
    exact let h := openBox_top _ _ _ (Pres.bind (Pres.discard hdr) fun _ => hb (((s.rest.take 16).drop 4).take 4)) s hs
      ⟨h.1, h.2.1, h.2.2.1, h.2.2.2.1⟩

/-- …and when the call reports no error and the stream holds the whole box, it stands exactly at the end of the box
(the next top-level box). -/
theorem top_box_exact (body : Bytes → M Unit) (hb : ∀ t, Pres (body t)) (hcl : ∀ t, Closes (body t)) (s : St) (hs : s.chain = [])
    (hok : isOk (topBox body s).1) (hfit : declSize (s.rest.take 16) ≤ s.rest.length) :
    ((topBox body s).2.pos : Int) = s.pos + declSize (s.rest.take 16) := by
  rcases topBox_run body s hs with ⟨k, h⟩ | ⟨sz, hdr, h0, _, hsz, h⟩ <;> rw [h] at hok ⊢
  · exact absurd hok (by simp [isOk])
  · have hd : declSize (s.rest.take 16) = sz := hsz.symm
    rw [hd] at hfit ⊢
    exact (openBox_top _ _ _ (Pres.bind (Pres.discard hdr) fun _ => hb (((s.rest.take 16).drop 4).take 4)) s hs).2.2.2.2
      (Closes.bind fun _ => hcl _) hok h0 hfit

/-- Reader.ReadMetadata, for every stream: the call stays inside the top-level box it starts on. -/
theorem C11_readMetadata_contained (s : St) (hs : s.chain = []) :
    (readMetadata s).2.chain = [] ∧ s.pos ≤ (readMetadata s).2.pos ∧
    ((readMetadata s).2.pos : Int) ≤ s.pos + max (declSize (s.rest.take 16)) 0 :=
  let h := top_box_contained dispatch Pres.dispatch s hs
  ⟨h.1, h.2.1, h.2.2.1⟩

/-- Reader.ReadMetadata: without error, on a box the stream holds completely, the reader stands at the next box. -/
theorem C11_readMetadata_exact (s : St) (hs : s.chain = []) (hok : isOk (readMetadata s).1)
    (hfit : declSize (s.rest.take 16) ≤ s.rest.length) :
    ((readMetadata s).2.pos : Int) = s.pos + declSize (s.rest.take 16) :=
  top_box_exact dispatch Pres.dispatch Closes.dispatch s hs hok hfit

theorem subAll_cons (b : Box) (t : List Box) (m : Int) : subAll (b :: t) m = { b with remain := b.remain - m } :: subAll t m := rfl

/-- CMT1–CMT4: with draining callbacks on a well-nested box whose payload (n ≥ 16 bytes: the Tiff header and at
least one directory) is in the stream, the Exif callback is invoked exactly once, with the first directory that
belongs to the box type, the byte order and first-IFD offset of the payload's own Tiff header, the payload length, and a
reader that yields exactly the payload bytes after the 8-byte Tiff header; afterwards the box is consumed exactly. -/
theorem C11_cmt_delivery (f : Nat) (s : St) (b : Box) (t : List Box) (n : Nat)
    (hc : s.chain = b :: t) (hn : b.remain = n) (h16 : 16 ≤ n) (hnest : ∀ o ∈ t, b.remain ≤ o.remain) (hlen : n ≤ s.rest.length)
    (hcb : s.cfg.cb = .drain) (hex : s.cfg.hasExif = true) :
    ∃ s', readCMT f s = (.ok (), s') ∧
      s'.events = { kind := "exif",
                    nums := [f, (Tiff.binaryOrder (s.rest.take 16)).code, (Tiff.binaryOrder (s.rest.take 16)).uint (((s.rest.take 16).drop 4).take 4),
                             ((n : Int) % 2 ^ 32).toNat, 0, 15],
                    data := (s.rest.drop 8).take (n - 8) } :: s.events ∧
      s'.pos = s.pos + n ∧ s'.rest = s.rest.drop n ∧ s'.chain = subAll s.chain n := by
  have F := Full.of_head hc hn hnest hlen
  have F8 := F.adv 8 (by omega)
  have F0 := F8.adv (n - 8) (Nat.le_refl _)
  rw [St.adv_adv, Nat.sub_self, show 8 + (n - 8) = n by omega] at F0
  unfold readCMT
  rw [bind_ok (F.readExifHeader f h16), bind_ok (get_run _)]
  simp only [St.adv_cfg, hex, if_true]
  rw [bind_ok (attempt_ok (F8.callback _ _ hcb)), St.adv_adv, show 8 + (n - 8) = n by omega]
  exact ⟨_, (F0.events _).close_zero, rfl, rfl, rfl, rfl⟩

/-- the xpacket uuid box: the XMP callback obtains exactly the bytes after the 16-byte uuid, and the box is consumed exactly -/
theorem C11_xpacket_delivery (s : St) (b : Box) (t : List Box) (n : Nat)
    (hc : s.chain = b :: t) (hn : b.remain = n) (h16 : 16 ≤ n) (hnest : ∀ o ∈ t, b.remain ≤ o.remain) (hlen : n ≤ s.rest.length)
    (huuid : s.rest.take 16 = uuidXPacket) (hcb : s.cfg.cb = .drain) (hx : s.cfg.hasXmp = true) :
    ∃ s', readUUIDBox s = (.ok (), s') ∧
      s'.events = { kind := "xmp", nums := [], data := (s.rest.drop 16).take (n - 16) } :: s.events ∧
      s'.pos = s.pos + n ∧ s'.rest = s.rest.drop n := by
  have F := Full.of_head hc hn hnest hlen
  have F16 := F.adv 16 h16
  have F0 := F16.adv (n - 16) (Nat.le_refl _)
  rw [St.adv_adv, Nat.sub_self, show 16 + (n - 16) = n by omega] at F0
  unfold readUUIDBox
  rw [show (16 : Int) = ((16 : Nat) : Int) from rfl, bind_ok (attempt_ok (F.peek 16 h16 (by omega)))]
  simp only []
  rw [bind_ok (F.discard 16 h16), bind_ok (get_run _)]
  simp only [huuid, beq_self_eq_true, if_true, St.adv_cfg, hx]
  rw [bind_ok (attempt_ok (F16.callback _ _ hcb)), St.adv_adv, show 16 + (n - 16) = n by omega]
  exact ⟨_, (F0.events _).close_zero, rfl, rfl, rfl⟩

/-- **PRVW delivery.** The preview uuid box (after its 16-byte uuid): 8 bytes are skipped, the PRVW box header is read in
place, and the preview callback obtains exactly the bytes of the PRVW box after its 24-byte header, with the size, width
and height fields of that header; afterwards the PRVW box is consumed exactly. -/
theorem C11_prvw_delivery (s : St) (b : Box) (t : List Box) (R N : Nat)
    (hc : s.chain = b :: t) (hn : b.remain = R) (hnest : ∀ o ∈ t, b.remain ≤ o.remain)
    (hN : be32 ((s.rest.drop 8).take 8) = N) (h24 : 24 ≤ N) (hfit : 8 + N ≤ R) (hlen : 8 + N ≤ s.rest.length)
    (htyp : (((s.rest.drop 8).take 8).drop 4).take 4 = t_PRVW)
    (hcb : s.cfg.cb = .drain) (hp : s.cfg.hasPrvw = true) :
    ∃ s', readPreview s = (.ok (), s') ∧
      s'.events = { kind := "prvw",
                    nums := [beNat ((((s.rest.drop 8).take 24).drop 20).take 4), beNat ((((s.rest.drop 8).take 24).drop 14).take 2),
                             beNat ((((s.rest.drop 8).take 24).drop 16).take 2)],
                    data := (s.rest.drop 32).take (N - 24) } :: s.events ∧
      s'.pos = s.pos + 8 + N ∧ s'.rest = s.rest.drop (8 + N) := by
  -- the uuid box has room for the 8 bytes and the PRVW box (`Room`, not `Full`: it need not end there)
  have F : Room s (8 + N) := Room.of_head hc (by omega) hnest hlen
  have F8 := F.adv 8 (by omega)
  obtain ⟨b', hb'⟩ := head_run (s.adv 8) (by simp [St.adv, subAll, hc])
  unfold readPreview
  -- 8 bytes are skipped
  rw [show (8 : Int) = ((8 : Nat) : Int) from rfl, bind_ok (attempt_ok (F.discard 8 (by omega)))]
  simp only []
  -- the PRVW box header is peeked in place: size `N`, type PRVW
  rw [bind_ok (attempt_ok (F8.peek 8 (by omega) (by omega)))]
  simp only []
  -- the PRVW box is opened with `N` left, which makes it `Full` (`Room.open`); its body delivers and uses it up
  -- (`prvwBody_delivers`), which `openBox_adv` turns into `N` bytes consumed outside
  rw [bind_ok hb', St.adv_rest, hN, htyp,
    bind_ok (openBox_adv _ _ _ _ _ N _ _ (prvwBody_delivers _ N (F8.open N (by omega) _ rfl) h24 hcb hp))]
  exact ⟨_, rfl, by simp only [St.adv, List.drop_drop], rfl, by simp only [St.adv, List.drop_drop]⟩

/-- **HEIF: the Exif item inside mdat is delivered exactly.**  In the mdat box (n bytes left, well nested, in the stream),
with the item location recorded from iloc (`exifOff`, `exifLen`; D = bytes between the reader and 16 bytes before the
item, L = the item's length, both inside the box), K = what the 16 bytes in front of the item say must be skipped
(`exifMarkerSkip`), and room for the item header and a Tiff header with one directory: the Exif callback is invoked
exactly once, with first directory IFD0, the byte order and first-IFD offset of the item's own Tiff header, the length
L-K-4, and a reader that yields exactly the item's bytes after that header; afterwards mdat is consumed exactly. -/
theorem C11_mdat_exif_delivery (s : St) (b : Box) (t : List Box) (n D L : Nat)
    (hc : s.chain = b :: t) (hn : b.remain = n) (hnest : ∀ o ∈ t, b.remain ≤ o.remain) (hlen : n ≤ s.rest.length)
    (hoff : s.exifOff ≠ 0) (hD : toI64 s.exifOff - b.offset - 16 = (D : Int)) (hL : toI64 s.exifLen = (L : Int))
    (hfit : D + L ≤ n) (hK : exifMarkerSkip ((s.rest.drop D).take 16) + 4 + 16 ≤ L)
    (hcb : s.cfg.cb = .drain) (hex : s.cfg.hasExif = true) :
    ∃ s', readMdat s = (.ok (), s') ∧
      s'.events = { kind := "exif",
                    nums := [1, (Tiff.binaryOrder ((s.rest.drop (D + (exifMarkerSkip ((s.rest.drop D).take 16) + 4))).take 16)).code,
                             (Tiff.binaryOrder ((s.rest.drop (D + (exifMarkerSkip ((s.rest.drop D).take 16) + 4))).take 16)).uint
                               ((((s.rest.drop (D + (exifMarkerSkip ((s.rest.drop D).take 16) + 4))).take 16).drop 4).take 4),
                             (((L - (exifMarkerSkip ((s.rest.drop D).take 16) + 4) : Nat) : Int) % 2 ^ 32).toNat, 0, 15],
                    data := (s.rest.drop (D + (exifMarkerSkip ((s.rest.drop D).take 16) + 4 + 8))).take (L - (exifMarkerSkip ((s.rest.drop D).take 16) + 4) - 8) } :: s.events ∧
      s'.pos = s.pos + n ∧ s'.rest = s.rest.drop n := by
  -- `Full` in mdat where the reader starts, `D` bytes on (`FD`) and `L` bytes after that (`FL`)
  have F := Full.of_head hc hn hnest hlen
  have FD := F.adv D (by omega)
  have FL := FD.adv L (by omega)
  obtain ⟨b1, hb1⟩ := head_run (s.adv D) (by simp [St.adv, subAll, hc])
  unfold readMdat
  rw [bind_ok (get_run _)]
  simp only [show (s.exifOff == 0) = false by simp [hoff], Bool.false_eq_true, if_false]
  -- `D` bytes are skipped
  rw [bind_ok (head_cons hc), hD, bind_ok (F.discard D (by omega)),
    -- 16 bytes are peeked there: they give `K` (`exifMarkerSkip`)
    show (16 : Int) = ((16 : Nat) : Int) from rfl, bind_ok (FD.peek 16 (by omega) (by omega)), bind_ok hb1, hL,
    St.adv_rest,
    -- the item box is opened with `L` left, which makes it `Full` (`Room.open`); its body delivers and uses it up
    -- (`mdatExifBody_delivers`), which `openBox_adv` turns into `L` bytes consumed outside
    bind_ok (openBox_adv _ _ _ _ _ L _ _ (mdatExifBody_delivers _ _ L (FD.toRoom.open L (by omega) _ rfl) hK hcb hex))]
  simp only []
  -- `close` discards what mdat has left
  rw [(FL.events _).close]
  exact ⟨_, rfl, by simp only [St.adv, List.drop_drop], by simp only [St.adv]; omega,
    by simp only [St.adv, List.drop_drop]; congr 1; omega⟩

/-- non-vacuity: a 56-byte mdat payload whose Exif item (28 bytes: 4-byte item header, II Tiff header, one directory
slot) starts 16 bytes further on; the theorem's hypotheses hold and the callback gets the 16 bytes after the
Tiff header -/
def mdatSample : St :=
  { rest := [9,9,9,9,9,9,9,9, 9,9,9,9,9,9,9,9, 0,0,0,0, 73,73,42,0,8,0,0,0, 1,2,3,4,5,6,7,8,9,10,11,12,13,14,15,16, 7,7,7,7,7,7,7,7,7,7,7,7],
    pos := 8, chain := [{ size := 64, remain := 56, offset := 0, flags := 0, typ := t_mdat, lim := 64 }],
    exifId := 1, xmlId := 0, exifOff := 32, exifLen := 28, events := [], cfg := {} }
example : ∃ s', readMdat mdatSample = (.ok (), s') ∧
    s'.events = [{ kind := "exif", nums := [1, 1, 8, 24, 0, 15], data := [1,2,3,4,5,6,7,8,9,10,11,12,13,14,15,16] }] := by
  obtain ⟨s', h, hev, _, _⟩ := C11_mdat_exif_delivery mdatSample _ [] 56 16 28 rfl rfl (by intro o ho; cases ho) (by decide)
    (by decide) (by decide) (by decide) (by decide) (by decide) rfl rfl
  refine ⟨s', h, ?_⟩
  rw [hev]
  rfl

/-- **iloc**: on the payload that encodes a list of single-extent items (any version, any valid field sizes, any number of
items), the entry walk of readIloc records the offset and length of the last item carrying the Exif item id.  (Single
extents only: the reader, and so the model, does not step over the further extents of an item; the facade decoders do not
use this path for HEIF — DecodeHeif searches for the Tiff header — see DESIGN.md 0.3.) -/
theorem C11_iloc_decode_encode (c : IlocCfg) (exifId xmlId : Nat) (pre post : List IlocEnt) (e : IlocEnt) (ol : Nat × Nat)
    (hok : ∀ x ∈ pre ++ e :: post, x.ok c) (he : e.id = exifId) (hpost : ∀ x ∈ post, x.id ≠ exifId) :
    ilocWalk c exifId xmlId (encIloc c (pre ++ e :: post)) ((encIloc c (pre ++ e :: post)).length / 6 + 1) 0 ol = (e.off, e.len) := by
  rw [ilocWalk_encoded c exifId xmlId _ _ _ 0 ol (by omega) hok rfl]
  exact ilocSpec_last exifId ol pre post e he hpost

/-- **iinf**: on the payload that encodes a list of version-2 infe entries, the walk of readInfe records the ids of the last
"Exif" item and the last "mime" item (`infeSpec`) -/
theorem C11_infe_decode_encode (es : List InfeEnt) (ids : Nat × Nat) (hok : ∀ e ∈ es, e.ok) :
    infeWalk (encInfes es) ((encInfes es).length / 12 + 1) 0 ids = infeSpec ids es :=
  infeWalk_encoded (encInfes es) es _ 0 ids (by omega) hok rfl

/-- non-vacuity: three items (hvc1 #1, Exif #2, mime #3); the walks find Exif = 2, XMP = 3, and the location of item 2 -/
example : infeWalk (encInfes [⟨1, [104,118,99,49], []⟩, ⟨2, t_Exif, []⟩, ⟨3, t_mime, [120]⟩]) 10 0 (0, 0) = (2, 3) := by decide
example : ilocWalk ⟨1, 4, 4, 0⟩ 2 3 (encIloc ⟨1, 4, 4, 0⟩ [⟨1, 500, 9000⟩, ⟨2, 9500, 120⟩, ⟨3, 9620, 77⟩]) 10 0 (0, 0) = (9500, 120) := by decide

inductive Op where
  | peek (n : Nat) | discard (n : Nat) | read (n : Nat)

def runOp : Op → M Unit
  | .peek n => do let _ ← attempt (peek n); pure ()
  | .discard n => do let _ ← attempt (discard n); pure ()
  | .read n => do let _ ← readUpTo n; pure ()

def runOps : List Op → M Unit
  | [] => pure ()
  | o :: t => do runOp o; runOps t

theorem Pres.runOp (o : Op) : Pres (runOp o) := by
  cases o
  · exact .bind (.attempt (.peek _)) fun _ => .pure _
  · exact .bind (.attempt (.discard _)) fun _ => .pure _
  · exact .bind (.readUpTo _) fun _ => .pure _

theorem Pres.runOps (ops : List Op) : Pres (runOps ops) := by
  induction ops with
  | nil => exact Pres.pure ()
  | cons o t ih => exact Pres.bind (Pres.runOp o) (fun _ => ih)

/-- For every program of Peek / Discard / Read calls (non-negative arguments) run against the innermost box, in any
state whose open boxes are within their declared ends: afterwards the reader is still within the declared end of
every open box — a child that overstates its size cannot make a read pass its parent. -/
theorem C11_any_callback_contained (ops : List Op) (s : St) (hne : s.chain ≠ []) (hw : WF s) :
    let s' := (runOps ops s).2
    (∀ b ∈ s'.chain, (s'.pos : Int) ≤ b.lim) ∧ s'.chain.map (·.lim) = s.chain.map (·.lim) ∧ s.pos ≤ s'.pos := by
  have r := Pres.runOps ops s hne
  exact ⟨fun b hb => (r.wf hw b hb).1, r.lims, r.mono⟩

/-- the box type decides the first directory -/
theorem C11_cmt_types :
    crxHandler (t_CMT1) = readCMT 1 ∧ crxHandler (t_CMT2) = readCMT 3 ∧
    crxHandler (t_CMT3) = readCMT 6 ∧ crxHandler (t_CMT4) = readCMT 4 := by
  refine ⟨?_, ?_, ?_, ?_⟩ <;> (unfold crxHandler; rfl)

def ftypBody (typ : Bytes) : M Unit :=
  if typ != t_ftyp then fail .wrongBoxType
  else do
    let b ← head
    let _ ← peek b.remain
    close

theorem readFTYP_eq : readFTYP = topBox ftypBody := rfl

theorem Safe.ftypBody (t : Bytes) : Safe (ftypBody t) :=
  .ite .fail <| .bind .head fun _ => .bind .peek fun _ => .close
theorem Closes.ftypBody (t : Bytes) : Closes (ftypBody t) := .ite (.fail _) <| .bind fun _ => .bind fun _ => .close

theorem C11_readFTYP_contained (s : St) (hs : s.chain = []) :
    (readFTYP s).2.chain = [] ∧ s.pos ≤ (readFTYP s).2.pos ∧
    ((readFTYP s).2.pos : Int) ≤ s.pos + max (declSize (s.rest.take 16)) 0 := by
  rw [readFTYP_eq]
  exact let h := top_box_contained ftypBody (fun t => (Safe.ftypBody t).pres) s hs; ⟨h.1, h.2.1, h.2.2.1⟩

theorem C11_readFTYP_exact (s : St) (hs : s.chain = []) (hok : isOk (readFTYP s).1)
    (hfit : declSize (s.rest.take 16) ≤ s.rest.length) :
    ((readFTYP s).2.pos : Int) = s.pos + declSize (s.rest.take 16) := by
  rw [readFTYP_eq] at hok ⊢
  exact top_box_exact ftypBody (fun t => (Safe.ftypBody t).pres) Closes.ftypBody s hs hok hfit

/-- ReadMetadata and ReadFTYP of the model return (a value or an error) for every stream: `head` is only used inside a
box, and every inner-box loop ends within (unread bytes)/8 + 2 rounds because a round that goes on has consumed a box
header. -/
theorem C11_readMetadata_total (s : St) (hs : s.chain = []) : ¬ isPanic (readMetadata s).1 :=
  topBox_total dispatch NP.dispatch s hs

theorem C11_readFTYP_total (s : St) (hs : s.chain = []) : ¬ isPanic (readFTYP s).1 := by
  rw [readFTYP_eq]; exact topBox_total ftypBody (fun t => (Safe.ftypBody t).np) s hs

def sampleFree : Bytes := [0, 0, 0, 12, 102, 114, 101, 101, 1, 2, 3, 4, 0, 0, 0, 8, 102, 114, 101, 101, 9, 9, 9, 9, 9, 9, 9, 9]

example : isOk (readMetadata (St.init sampleFree {})).1 ∧ declSize (sampleFree.take 16) = 12 ∧
    (readMetadata (St.init sampleFree {})).2.pos = 12 := by decide +kernel

/-- a moov box with the Canon uuid holding one CMT1 box with a 16-byte little-endian payload, then padding -/
def sampleCR3 : Bytes :=
  [0, 0, 0, 56, 109, 111, 111, 118,
   0, 0, 0, 48, 117, 117, 105, 100, 0x85, 0xc0, 0xb6, 0x87, 0x82, 0x0f, 0x11, 0xe0, 0x81, 0x11, 0xf4, 0xce, 0x46, 0x2b, 0x6a, 0x48,
   0, 0, 0, 24, 67, 77, 84, 49, 0x49, 0x49, 0x2a, 0, 8, 0, 0, 0, 1, 2, 3, 4, 5, 6, 7, 8,
   0, 0, 0, 16, 102, 114, 101, 101, 0, 0, 0, 0, 0, 0, 0, 0]

example : isOk (readMetadata (St.init sampleCR3 {})).1 ∧ (readMetadata (St.init sampleCR3 {})).2.pos = 56 ∧
    (readMetadata (St.init sampleCR3 {})).2.events.map (fun e => (e.kind, e.nums, e.data)) = [("exif", [1, 1, 8, 16, 0, 15], [1, 2, 3, 4, 5, 6, 7, 8])] := by
  decide +kernel

end Imeta.Props.C11
