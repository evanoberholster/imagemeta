/-
  C02 — Every decode terminates after work linear in the input size.

  Progress theorems for the loops that are modelled: every iteration consumes input or returns, and the number
  of iterations is bounded linearly by the input length.
-/
import Imeta.Props.C10
import Imeta.Props.C12
import Imeta.Lemmas.BmffTotal
import Imeta.Lemmas.XmpTotal
import Imeta.Lemmas.ExifWalk
import Imeta.Lemmas.BmffWalks
import Imeta.Lemmas.QSelect
import Imeta.Lemmas.TiffReq
import Imeta.Lemmas.Png
namespace Imeta.C02
open Imeta

/-- JPEG: every pass through the marker loop that does not finish the scan shortens the unread stream
(this is the lemma the pinned tree violated at SOI depth 0; replayed and repaired, see known_findings) -/
theorem C02_jpeg_progress (cb : Jpeg.Cbs) (s s' : Jpeg.St) (evs : List Jpeg.Ev) (h : Jpeg.step cb s = .next s' evs) :
    s'.rest.length < s.rest.length := Jpeg.step_progress cb s s' evs h

/-- JPEG: hence at most `len + 2` passes for any input and any callbacks -/
theorem C02_jpeg_terminates (cb : Jpeg.Cbs) (b : Bytes) : (Jpeg.scan cb b).isSome = true := Jpeg.C10_scan_terminates cb b

/-- TIFF header search: at most `len + 1` iterations (one `Peek` each) -/
theorem C02_tiff_linear (b : Bytes) (fuel : Nat) : Tiff.iterations fuel b ≤ b.length + 1 := Tiff.iterations_le fuel b

/-- PNG chunk walk: every iteration consumes the 8-byte chunk header, so `len/8 + 2` iterations suffice -/
theorem C02_png_terminates (b : Bytes) : (Png.scan b).isFuel = false := by
  unfold Png.scan
  split
  · rfl
  · split
    · exact Png.chunks_fuel b (b.length / 8 + 1) 8 (by omega)
    · rfl

/-- ISOBMFF: every inner-box loop is given (unread bytes)/8 + 2 rounds and never needs more (a round that continues has
consumed at least the 8 bytes of a box header): the "fuel" outcome is unreachable -/
theorem C02_isobmff_loops_bounded {h : Bytes → Bmff.M Unit} (hp : ∀ t, Bmff.Pres (h t)) (hh : ∀ t, Bmff.NP (h t)) (oe : Bmff.OnErr)
    (s : Bmff.St) (hn : s.chain ≠ []) : Bmff.NPat (Bmff.innerLoop h oe (s.rest.length / 8 + 2)) s :=
  Bmff.innerLoop_total (fun t => ⟨hp t, hh t⟩) oe _ s hn (by omega)

/-- ISOBMFF item walks over a peeked buffer (readInfe over the iinf payload, readIloc over the iloc entries): the rounds
the model allows (|buf|/12+1 resp. |buf|/6+1) are never used up — the result is the same for every larger number of
rounds, because a round that continues has advanced the cursor by at least 12 resp. 6 bytes (an iloc entry with
extent_count 0 still advances by the entry header).  The loop in the code has no counter: this is what makes it end. -/
theorem C02_isobmff_item_walks (buf : Bytes) (g : Nat) :
    (∀ ids, buf.length / 12 + 1 ≤ g → Bmff.infeWalk buf g 0 ids = Bmff.infeWalk buf (buf.length / 12 + 1) 0 ids) ∧
    (∀ c e x ol, buf.length / 6 + 1 ≤ g → Bmff.ilocWalk c e x buf g 0 ol = Bmff.ilocWalk c e x buf (buf.length / 6 + 1) 0 ol) :=
  ⟨fun ids h => Bmff.infeWalk_fuel buf _ g 0 ids (by omega) h, fun c e x ol h => Bmff.ilocWalk_fuel c e x buf _ g 0 ol (by omega) h⟩

/-- XMP: ParseXmp of the model ends for every input with the fuel it is given (unread length + 8): the look-ahead loops
give up after at most 4 resp. 13 windows, every other loop (root search, tags, attributes, array items) consumes at least
one byte per round -/
theorem C02_xmp_terminates (b : Bytes) : ¬ Xmp.isFuel (Xmp.parseXmp b).1 := Xmp.parseXmp_total b

/-- Exif: the directory walk (`readIfd`'s work loop over the pending-tag buffer, with child directories, sub-IFD
lists and maker notes queued while it runs) ends for every input, byte order, tables and entry variant with the
fuel 200·(length+16) the model passes.  The potential 4·(pending tags) + (unread bytes) − 4·(position) never grows
inside the directory reader — every queued tag is paid for by at least four bytes consumed — and every round of the
loop advances the position, so the potential falls by at least 4 per round: the number of rounds is at most
(length)/4 + 1, linear in the input.  No function below the loop can report `fuel` (they are structurally recursive). -/
theorem C02_exif_terminates (tb : Exif.Tables) (rest : Bytes) (buffered : Bool) (h : Exif.Hdr) :
    Exif.decodeTiff tb rest buffered h ≠ .fuel ∧ Exif.decodeJPEGIfd tb rest buffered h ≠ .fuel ∧
    Exif.decodeIfd tb rest buffered h ≠ .fuel :=
  ⟨(Exif.decodeTiff_ret tb rest buffered h).ne_fuel, (Exif.decodeJPEGIfd_ret tb rest buffered h).ne_fuel,
    (Exif.decodeIfd_ret tb rest buffered h).ne_fuel⟩

/-- exif2.Parse (header search, then DecodeTiff) never runs out of fuel either -/
theorem C02_exif_parse_terminates (tb : Exif.Tables) (b : Bytes) : Exif.parse tb b ≠ .fuel :=
  (Exif.parse_ret tb b (Tiff.C12_no_panic b (b.length + 1) (Nat.lt_succ_self _))).ne_fuel

/-- the per-round decrease itself: a round of the work loop that continues does so from a state whose potential is at
least 4 smaller (stated for the three kinds of round through `step_ok`) -/
theorem C02_exif_round_decreases (r rn : Exif.R) (h : Exif.Pay 0 r rn) (hlt : r.pos < r.tags.length) :
    Exif.M { rn with pos := rn.pos + 1 } + 4 ≤ Exif.M r := (Exif.step_ok r rn h hlt).2

/-- non-vacuity: a fresh reader over 20 bytes meets the hypotheses of the loop theorem with the fuel it is given -/
example : let r : Exif.R := { rest := List.replicate 20 0, po := 0, exifLength := 0, buffered := true }
    r.pos ≤ r.tags.length ∧ Exif.M r < Exif.fuelFor r.rest := by decide

/-- perceptual hashes: the in-place quickselect that finds the median ends, for every array over a strict weak order and
every k inside the range, within 2·(hi-low)+1 rounds (the model's 2n+2 are never used up) -/
theorem C02_quickselect_terminates {α : Type} [LT α] [DecidableLT α] (sw : Hash.StrictWeak α) (k low hi fuel : Nat) (a : Array α)
    (g : Hash.G k low hi a) (hf : 2 * (hi - low) + 1 < fuel) : ∃ a', Hash.qselLoop k fuel low hi a = .ok a' :=
  let ⟨a', h, _⟩ := Hash.qsel_spec sw k fuel low hi a g (Or.inl hf)
  ⟨a', h⟩

/-- **Bytes requested by the TIFF header search.**  Over a bufio.Reader of any capacity S ≥ 32 (4096 in
tiff.ScanTiffHeader) on a source that delivers what it has up to the length asked for (an in-memory reader, a file), for
every input: the search with the request counters next to it finds what the scan model finds (the counters change
nothing), and it asks the source for at most len + 2·S bytes — every Read that is answered in full costs what it
delivers, the one Read that exhausts the source and the one Read that finds it empty cost at most a buffer each, and the
search ends at the first look-ahead that fails.  With S = 4096 that is within the property's 4·len + 64 KiB. -/
theorem C02_tiff_requested (S : Nat) (hS : 32 ≤ S) (b : Bytes) :
    let r := Tiff.scanC S (b.length + 1) b 0 { buffered := 0, srcLeft := b.length, req := 0, reads := 0 }
    r.1 = Tiff.scan (b.length + 1) b 0 ∧ r.2.req ≤ b.length + 2 * S := by
  obtain ⟨hout, this⟩ := Tiff.scanC_spec S hS (b.length + 1) b 0 { buffered := 0, srcLeft := b.length, req := 0, reads := 0 } (by simp) (by simp)
  refine ⟨hout, ?_⟩
  unfold Tiff.budget at this
  split at this <;> simp only [] at this <;> omega

theorem C02_tiff_requested_4096 (b : Bytes) :
    (Tiff.scanC 4096 (b.length + 1) b 0 { buffered := 0, srcLeft := b.length, req := 0, reads := 0 }).2.req ≤ 4 * b.length + 65536 := by
  have h : (Tiff.scanC 4096 (b.length + 1) b 0 { buffered := 0, srcLeft := b.length, req := 0, reads := 0 }).2.req ≤ b.length + 2 * 4096 :=
    (C02_tiff_requested 4096 (by omega) b).2
  omega

/-- non-vacuity: 64 bytes of 'M' (no header; the search steps one byte at a time): 33 look-aheads succeed, the 34th fails,
two Reads, 8161 bytes requested -/
example : (Tiff.scanC 4096 65 (List.replicate 64 0x4d) 0 { buffered := 0, srcLeft := 64, req := 0, reads := 0 }) =
    (.err .noExif, { buffered := 31, srcLeft := 0, req := 8161, reads := 2 }) := by decide +kernel

/-- **Bytes requested by the PNG chunk walk.**  On a source that delivers what it has up to the length asked for, for every
input: the walk asks for at most len + 16 bytes — every header it reads in full costs its 8 bytes, the headers lie at
strictly increasing positions (each step seeks forward over the chunk), and only the last, failing io.ReadFull can cost up to
two Reads of 8.  Within the property's 4·len + 64 KiB. -/
theorem C02_png_requested (b : Bytes) : Png.scanReq b ≤ b.length + 16 := by
  unfold Png.scanReq
  cases h8 : Png.read8 b 0 with
  | none => simp only; have := Png.failReq_le b 0; omega
  | some s =>
    have hp : 8 ≤ b.length := by
      unfold Png.read8 at h8; split at h8 <;> simp_all
    simp only
    split
    · have := Png.chunksReq_le b (b.length / 8 + 2) 8; omega
    · omega

/-- non-vacuity: signature + IHDR + a chunk header cut off after 5 bytes: 8 + 8 + (8 + 3) = 27 -/
example : Png.scanReq (Png.signature ++ [0, 0, 0, 0, 73, 72, 68, 82, 0, 0, 0, 0] ++ [0, 0, 0, 9, 116]) = 27 := by decide +kernel

end Imeta.C02
