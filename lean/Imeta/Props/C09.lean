/-
  C09 — Image-type sniffing is a total, prefix-only, signature-correct classification.

  The predicates and the decision list are GENERATED from imagetype/*.go on every run
  (Imeta.Gen.ImageType); the tie lemma
  `parseBuffer_spec` (Lemmas/ImageType) re-proves on every run that they compute
  the hand-written signature table `ImageTypeSpec.table`.
-/

import Imeta.Lemmas.ImageType
namespace Imeta.ImageType
open Imeta Imeta.Gen.ImageType Imeta.ImageTypeSpec

/-- **C09 main theorem**: for every byte string, `Buf` is the specified sniffing function:
`DataLength` below 24 bytes, otherwise the first matching row of the signature table applied
to the first 24 bytes, `TypeNotFound` when no row matches.  In particular it never panics. -/
theorem C09_buf_eq_spec (b : Bytes) : Buf b = sniff b := by
  unfold Buf sniff
  by_cases h : b.length < 24
  · simp [h, searchHeaderLength, lenLt]
  · have h24 : 24 ≤ b.length := by omega
    simp [h, searchHeaderLength, lenLt, parseBuffer_spec b h24]

/-- streams shorter than 24 bytes: an error and no type -/
theorem C09_short (b : Bytes) (h : b.length < 24) : Buf b = .err .dataLength := by
  rw [C09_buf_eq_spec]; simp [sniff, h]

/-- total: a value or an error for every byte string, never a panic -/
theorem C09_total (b : Bytes) : (Buf b).isPanic = false ∧ (Buf b).isFuel = false := by
  rw [C09_buf_eq_spec]; unfold sniff
  split
  · simp [Outcome.isPanic, Outcome.isFuel]
  · split <;> simp [Outcome.isPanic, Outcome.isFuel]

/-- prefix-only: everything after byte 24 is ignored -/
theorem C09_prefix_only (b : Bytes) (h : 24 ≤ b.length) : Buf b = Buf (b.take 24) := by
  rw [C09_buf_eq_spec, C09_buf_eq_spec]
  have : ¬ b.length < 24 := by omega
  simp [sniff, this, List.length_take, Nat.min_eq_left h, List.take_take]

/-- ... stated with an explicit suffix: for all 2^192 headers and all suffixes -/
theorem C09_suffix_irrelevant (hd s : Bytes) (h : hd.length = 24) : Buf (hd ++ s) = Buf hd := by
  rw [C09_prefix_only (hd ++ s) (by simp [h])]
  simp [h]

theorem firstMatch_eq_find (tb : List (Nat × (Bytes → Bool))) (h : Bytes) :
    firstMatch tb h = (tb.find? fun e => e.2 h).map (·.1) := by
  induction tb with
  | nil => rfl
  | cons e rest ih =>
    simp only [firstMatch, List.find?_cons, ih]
    split <;> simp [*]

theorem firstMatch_eq_some (tb : List (Nat × (Bytes → Bool))) (h : Bytes) (F : Nat) :
    firstMatch tb h = some F ↔
      ∃ i, ∃ hi : i < tb.length, (tb[i]).1 = F ∧ (tb[i]).2 h = true ∧ ∀ e ∈ tb.take i, e.2 h = false := by
  simp only [firstMatch_eq_find, Option.map_eq_some_iff, List.find?_eq_some_iff_getElem, List.mem_take_iff_getElem]
  constructor
  · rintro ⟨a, ⟨ha, i, hi, rfl, hb⟩, rfl⟩
    exact ⟨i, hi, rfl, ha, by rintro e ⟨j, hj, rfl⟩; simpa using hb j (by omega)⟩
  · rintro ⟨i, hi, rfl, ha, hb⟩
    exact ⟨_, ⟨ha, i, hi, rfl, fun j hj => by simpa using hb _ ⟨j, by omega, rfl⟩⟩, rfl⟩

theorem firstMatch_none (tb : List (Nat × (Bytes → Bool))) (h : Bytes) :
    firstMatch tb h = none ↔ ∀ e ∈ tb, e.2 h = false := by
  simp only [firstMatch_eq_find, Option.map_eq_none_iff, List.find?_eq_none, Bool.not_eq_true]

theorem table_types_known : ∀ e ∈ table, e.1 ≠ ImageUnknown := by decide

theorem sniff_eq_firstMatch (b : Bytes) (hl : 24 ≤ b.length) :
    sniff b = match firstMatch table (b.take 24) with | none => .err .typeNotFound | some F => .ok F := by
  have hl' : ¬ b.length < 24 := by omega
  unfold sniff classify
  cases hm : firstMatch table (b.take 24) with
  | none => simp [hl', ImageUnknown]
  | some G =>
    obtain ⟨i, hi, h1, _⟩ := (firstMatch_eq_some _ _ _).mp hm
    have hne : G ≠ ImageUnknown := h1 ▸ table_types_known _ (List.getElem_mem hi)
    simp [hl', hne]

theorem Buf_eq_ok_iff (b : Bytes) (F : Nat) :
    Buf b = .ok F ↔ 24 ≤ b.length ∧ firstMatch table (b.take 24) = some F := by
  rw [C09_buf_eq_spec]
  by_cases hl : b.length < 24
  · simp [sniff, hl]; omega
  · rw [sniff_eq_firstMatch b (by omega)]
    cases firstMatch table (b.take 24) <;> simp <;> omega

/-- **sound**: a header is given type F only if it carries F's signature -/
theorem C09_sound (b : Bytes) (F : Nat) (h : Buf b = .ok F) :
    24 ≤ b.length ∧ F ≠ ImageUnknown ∧ Sig F (b.take 24) = true := by
  obtain ⟨hl, hm⟩ := (Buf_eq_ok_iff b F).mp h
  obtain ⟨i, hi, h1, h2, _⟩ := (firstMatch_eq_some _ _ _).mp hm
  refine ⟨hl, h1 ▸ table_types_known _ (List.getElem_mem hi), ?_⟩
  rw [Sig, List.any_eq_true]
  exact ⟨_, List.getElem_mem hi, by simp [h1, h2]⟩

/-- **'not found' exactly when the type is unknown**: no row of the table matches -/
theorem C09_notfound_iff (b : Bytes) :
    Buf b = .err .typeNotFound ↔ 24 ≤ b.length ∧ ∀ e ∈ table, e.2 (b.take 24) = false := by
  rw [C09_buf_eq_spec, ← firstMatch_none]
  by_cases hl : b.length < 24
  · simp [sniff, hl]; omega
  · rw [sniff_eq_firstMatch b (by omega)]
    cases firstMatch table (b.take 24) <;> simp <;> omega

/-- **complete, with priorities**: if row `i` of the table matches the header and no earlier
(more specific) row does, the header is classified as row `i`'s type -/
theorem C09_complete (b : Bytes) (hl : 24 ≤ b.length) (i : Nat) (hi : i < table.length)
    (hm : (table[i]).2 (b.take 24) = true) (hno : ∀ e ∈ table.take i, e.2 (b.take 24) = false) :
    Buf b = .ok (table[i]).1 :=
  (Buf_eq_ok_iff b _).mpr ⟨hl, (firstMatch_eq_some _ _ _).mpr ⟨i, hi, rfl, hm, hno⟩⟩

/-- a header that carries one of these signatures carries none of the rows listed before it (disjointness by bytes
0..3 and 8; for TIFF the two rows it shares its first bytes with are excluded by hypothesis) -/
theorem rows_before (b : Bytes) (hl : 24 ≤ b.length) :
    let h := b.take 24
    (sigCR2 h = true → ∀ e ∈ table.take 3, e.2 h = false) ∧
    (sigRW2 h = true → ∀ e ∈ table.take 7, e.2 h = false) ∧
    (sigCR3 h = true → ∀ e ∈ table.take 4, e.2 h = false) ∧
    (sigAVIF h = true → ∀ e ∈ table.take 5, e.2 h = false) ∧
    (sigHEIF h = true → sigAVIF h = false → ∀ e ∈ table.take 6, e.2 h = false) ∧
    (sigTIFF h = true → sigCR2 h = false → sigCRW h = false → ∀ e ∈ table.take 8, e.2 h = false) := by
  obtain ⟨b0, b1, b2, b3, b4, b5, b6, b7, b8, b9, b10, b11, b12, b13, b14, b15, b16, b17, b18, b19,
    b20, b21, b22, b23, rest, rfl⟩ := destruct24 b hl
  simp only [table, List.take_succ_cons, List.take_zero, List.mem_cons, List.not_mem_nil, or_false, forall_eq_or_imp, forall_eq]
  simp only [sigCR2, sigJPEG, sigJP2, sigCRW, sigRW2, sigCR3, sigAVIF, sigHEIF, sigTIFF, sigFtyp, hasAt_succ, hasAt_cons,
    hasAt_nil, crx_, avif, mif1, msf1, heic, heix, hevc, Bool.and_true]
  simp only [Bool.and_eq_true, Bool.or_eq_true, Bool.and_eq_false_imp, beq_iff_eq, beq_eq_false_iff_ne]
  -- in each row `h` fixes bytes 0..3 (0..7 of an ftyp box) and `h8` bytes 8..11; the tests of the rows before then evaluate
  refine ⟨?_, ?_, ?_, ?_, ?_, ?_⟩
  · rintro ⟨h | h, h8⟩ <;> simp [h, h8]
  · rintro ⟨h, h8⟩
    simp [h, h8]
  · rintro ⟨h, h8⟩
    simp [h, h8]
  · rintro ⟨h, h8 | h8⟩ <;> simp [h, h8]
  · rintro ⟨h, (((h8 | h8) | h8) | h8) | h8⟩ ha <;> simp [h, h8] at ha ⊢
    exact ha
  · rintro (h | h) h1 h2 <;> simp [h] at h1 h2 ⊢
    · exact ⟨h2, h1⟩
    · exact h1

/-- CR2 wins over TIFF -/
theorem C09_cr2_over_tiff (b : Bytes) (hl : 24 ≤ b.length) (h : sigCR2 (b.take 24) = true) :
    Buf b = .ok ImageCR2 := C09_complete b hl 3 (by decide) h ((rows_before b hl).1 h)

/-- RW2 is identified as Panasonic raw -/
theorem C09_rw2 (b : Bytes) (hl : 24 ≤ b.length) (h : sigRW2 (b.take 24) = true) :
    Buf b = .ok ImagePanaRAW := C09_complete b hl 7 (by decide) h ((rows_before b hl).2.1 h)

/-- CR3 chosen by ftyp brand 'crx ' -/
theorem C09_cr3 (b : Bytes) (hl : 24 ≤ b.length) (h : sigCR3 (b.take 24) = true) :
    Buf b = .ok ImageCR3 := C09_complete b hl 4 (by decide) h ((rows_before b hl).2.2.1 h)

/-- AVIF chosen by ftyp brand -/
theorem C09_avif (b : Bytes) (hl : 24 ≤ b.length) (h : sigAVIF (b.take 24) = true) :
    Buf b = .ok ImageAVIF := C09_complete b hl 5 (by decide) h ((rows_before b hl).2.2.2.1 h)

/-- HEIF chosen by ftyp brand (unless the brands also say AVIF, which is listed first) -/
theorem C09_heif (b : Bytes) (hl : 24 ≤ b.length) (h : sigHEIF (b.take 24) = true)
    (hna : sigAVIF (b.take 24) = false) : Buf b = .ok ImageHEIF :=
  C09_complete b hl 6 (by decide) h ((rows_before b hl).2.2.2.2.1 h hna)

/-- generic TIFF only when the header is neither CR2 nor CRW -/
theorem C09_tiff (b : Bytes) (hl : 24 ≤ b.length) (h : sigTIFF (b.take 24) = true)
    (h1 : sigCR2 (b.take 24) = false) (h2 : sigCRW (b.take 24) = false) : Buf b = .ok ImageTiff :=
  C09_complete b hl 8 (by decide) h ((rows_before b hl).2.2.2.2.2 h h1 h2)

theorem ScanBuf_fst (s : Bytes) (size : Nat) (hs : 24 ≤ size) :
    (ScanBuf s size).1 = if s.length < 24 then .err .eof else Buf (s.take 24) := by
  have h2 : ¬ size < 24 := by omega
  by_cases h : s.length < 24 <;> simp [ScanBuf, peek, searchHeaderLength, lenLt, h2, h]

theorem Scan_eq_ScanBuf (s : Bytes) (sz : Option Nat) : ∃ n, 24 ≤ n ∧ Scan s sz = (ScanBuf s n).1 := by
  cases sz with
  | none => exact ⟨24, Nat.le_refl _, rfl⟩
  | some n =>
    by_cases hn : n < 24
    · exact ⟨24, Nat.le_refl _, by simp only [Scan, searchHeaderLength, hn, if_true]⟩
    · exact ⟨n, by omega, by simp only [Scan, searchHeaderLength, hn, if_false]⟩

/-- `ScanBuf` (any bufio.Reader of size ≥ 24), `Scan` (any reader kind) and `ReadAt` return
what `Buf` returns on the stream when it has ≥ 24 bytes, an error and no type otherwise;
`ScanBuf` leaves the stream untouched. -/
theorem C09_entrypoints_agree (s : Bytes) (size : Nat) (hs : 24 ≤ size) (sz : Option Nat) :
    (ScanBuf s size).2 = s ∧
    (24 ≤ s.length →
      (ScanBuf s size).1 = Buf s ∧ Scan s sz = Buf s ∧ ReadAt s = Buf s) ∧
    (s.length < 24 →
      (ScanBuf s size).1 = .err .eof ∧ Scan s sz = .err .eof ∧ ReadAt s = .err .eof ∧
      Buf s = .err .dataLength) := by
  obtain ⟨n, hn, hscan⟩ := Scan_eq_ScanBuf s sz
  rw [hscan, ScanBuf_fst s size hs, ScanBuf_fst s n hn]
  refine ⟨rfl, fun hl => ?_, fun hl => ?_⟩
  · have h1 : ¬ s.length < 24 := by omega
    simp [ReadAt, searchHeaderLength, lenLt, h1, ← C09_prefix_only s hl]
  · simp [ReadAt, searchHeaderLength, lenLt, hl, C09_short s hl]

/-- no predicate reads at or beyond index 24: every 24-byte buffer is classified without a
panic (this is `C09_total` specialised; it is what C01 uses for the sniffing entry points) -/
theorem C09_no_index_beyond_guard (h : Bytes) (hl : h.length = 24) :
    ∃ t, parseBuffer h = .ok t := ⟨_, parseBuffer_spec h (by omega)⟩

def cr2Header : Bytes :=
  [0x49, 0x49, 0x2a, 0x00, 0x10, 0, 0, 0, 0x43, 0x52, 0x02, 0x00] ++ List.replicate 12 0

example : sigCR2 (cr2Header.take 24) = true ∧ sigTIFF (cr2Header.take 24) = true := by decide
example : Buf cr2Header = .ok ImageCR2 := by decide
example : Buf (cr2Header.take 23) = .err .dataLength := by decide
example : Buf (List.replicate 24 0x20) = .err .typeNotFound := by decide

end Imeta.ImageType
