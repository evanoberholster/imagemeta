/-
  C13 — array items that carry attributes: the Alt arrays (`<rdf:li xml:lang="x-default">`) of dc:title, dc:rights,
  dc:description (Lemmas/XmpTree.lean).  `Child.arrA` makes them children like the others, so the packet theorems
  (C13_packet_exact, C13_packet_descriptions_exact) cover them.
-/
import Imeta.Props.C13i
namespace Imeta.Props.C13
open Imeta Imeta.Xmp

/-- **Items with or without attributes, in document order.**  As `C13_array_items_in_document_order`, with each item free to
carry an attribute list: every attribute with a non-empty value is handed on as a token of the array's property whose parent
is the attribute's own property (that is how the value parsers tell `xml:lang` from an item), followed by the item's token
with exactly its value. -/
theorem C13_array_items_with_attributes (parent : Tag) (wsE : Bytes) (n0 : UInt8) (ns name R : Bytes)
    (hwsE : ∀ x ∈ wsE, (x == 60) = false) (hwinE : wsE.length + 128 ≤ W)
    (hnsE : ∀ x ∈ n0 :: ns, (x == 58) = false) (hnameE : ∀ x ∈ name, isTerm x = false) (hfitE : ns.length + name.length + 5 ≤ 128)
    (hself : identify (n0 :: ns) name = parent.self) (l : List (Bytes × List (Bytes × Attr) × Elem)) (f : Nat) (st : St)
    (hr : st.rest = serIA l ++ (wsE ++ 60 :: 47 :: ((n0 :: ns) ++ 58 :: (name ++ 62 :: R))))
    (hok : ∀ p ∈ l, (∀ x ∈ p.1, (x == 60) = false) ∧ p.1.length + 128 ≤ W ∧ p.2.2.Item ∧ (p.2.2.prop == parent.self) = false ∧
      (∀ q ∈ p.2.1, (∀ x ∈ q.1, isWs x = true) ∧ q.1 ≠ [] ∧ q.2.OK)) :
    readSeqTags parent (f + 1 + 2 * l.length) st = (.ok (), { rest := R, a := false, toks := pushIA parent l st.toks }) :=
  readSeqTags_items_exact parent wsE n0 ns name R hwsE hwinE hnsE hnameE hfitE hself l f st hr hok

/-! non-vacuity: `<dc:title><rdf:Alt><rdf:li xml:lang="x-default">Dunes</rdf:li></rdf:Alt></dc:title>` as a child of a Description -/
def nTitle : Name := { n0 := 100, ns := [99], name := [116, 105, 116, 108, 101] }
def nAlt : Name := { n0 := 114, ns := [100, 102], name := [65, 108, 116] }
def aLang : Attr := { n0 := 120, ns := [109, 108], m0 := 108, name := [97, 110, 103], q := 34, v := ("x-default").toUTF8.toList }
def liDunes : Elem := { n0 := 114, ns := [100, 102], name := [108, 105], c := 68, v' := [117, 110, 101, 115] }
def cTitle : Child := .arrA nTitle nAlt [] [] [] [([], [([32], aLang)], liDunes)]
example : cTitle.ser [] = ("<dc:title><rdf:Alt><rdf:li xml:lang=\"x-default\">Dunes</rdf:li></rdf:Alt></dc:title>").toUTF8.toList := by rewrite [utf8_toList]; decide +kernel
example : aLang.OK ∧ liDunes.Item ∧ nTitle.OK ∧ nAlt.OK ∧ (nAlt.prop == rdfSeq || nAlt.prop == rdfAlt || nAlt.prop == rdfBag) = true ∧
    (nTitle.prop == rdfSeq || nTitle.prop == rdfAlt || nTitle.prop == rdfBag) = false ∧ (liDunes.prop == nAlt.prop) = false := by
  refine ⟨⟨by decide, by decide, by decide, by decide, by decide, by decide +kernel, by decide, by decide +kernel⟩, ⟨by decide, by decide, by decide, by decide, by decide, by decide, by decide⟩,
    ⟨by decide, by decide, by decide, by decide⟩, ⟨by decide, by decide, by decide, by decide⟩, by decide +kernel, by decide +kernel, by decide +kernel⟩
/-- the model run: the xml:lang token (parent = xml:lang, property = dc:title), then the item -/
example : ((readTag 9 descTag { rest := cTitle.ser ("</rdf:Description>").toUTF8.toList, a := false, toks := [] }).2.toks.reverse.map
      (fun t => (t.pt, t.self == nTitle.prop, t.parent == aLang.prop, t.val.length))) = [(1, true, true, 9), (2, true, false, 5)] := by rewrite [utf8_toList]; decide +kernel

/-- **A self-closing element is stepped over.**  `<ns:name/>` without attributes — an empty array written `<rdf:Bag/>`, an unknown
empty property — costs one round of readTag, reports nothing and consumes exactly the tag; as `Child.solo` it may stand
anywhere among the children of a Description in the packet theorems. -/
theorem C13_self_closing_element_skipped (parent : Tag) (st : St) (ws : Bytes) (n : Name) (R : Bytes) (f : Nat)
    (hr : st.rest = ws ++ 60 :: ((n.n0 :: n.ns) ++ 58 :: (n.name ++ 47 :: 62 :: R)))
    (hws : ∀ x ∈ ws, (x == 60) = false) (hwin : ws.length + 128 ≤ W) (ok : n.OK) :
    readTag (f + 1) parent st = readTag f parent { rest := R, a := false, toks := st.toks } :=
  solo_round parent n ok f st ws R (Nat.zero_le _) hr ⟨hws, hwin⟩

/-- non-vacuity: `<rdf:Bag/>` between two properties changes nothing but the position -/
example : ((readTag 6 descTag { rest := serC [([], .elem eMake), ([], .solo nBag), ([10], .elem eModel)] ("</rdf:Description>").toUTF8.toList, a := false, toks := [] }).2.toks.reverse.map (·.val)) =
    [[67, 97, 110, 111, 110], [69, 79, 83]] := by rewrite [utf8_toList]; decide +kernel

/-- non-vacuity for a bare Description: `<rdf:Description>` without attributes is covered by `DescR` (its `la` may be empty) -/
def d0 : DescR := { D := nDesc, wsV := [], ws2 := [], la := [], cs := [([], .elem eModel)] }
example : ((readTag 5 {} { rest := d0.ser ("</rdf:RDF>").toUTF8.toList, a := false, toks := [] }).2.toks.map (·.val), d0.ser [] ) =
    ([[69, 79, 83]], ("<rdf:Description><tiff:Model>EOS</tiff:Model></rdf:Description>").toUTF8.toList) := by rewrite [utf8_toList, utf8_toList]; decide +kernel

/-- **An attribute value of any length up to 1275 bytes** (the property's 1..1024-byte values that straddle the 256 / 768 /
1280-byte look-ahead steps included) **is returned exactly**: a window that does not hold the closing quote and the two bytes
behind it is given up without consuming anything, the next one is tried, and the value comes back as written — the result
does not depend on where the value ends relative to the window steps. -/
theorem C13_attribute_value_any_length (tag : Tag) (st : St) (v t'' : Bytes) (q c1 c2 : UInt8)
    (hq : q = 34 ∨ q = 39) (hv : ∀ x ∈ v, (x == q) = false) (h62 : c1 ≠ 62) (h47 : c1 ≠ 47) (hlen : v.length + 5 ≤ 1280)
    (hr : st.rest = [61, q] ++ v ++ [q, c1, c2] ++ t'') :
    readAttrValue tag 8 256 st = (.ok (v, tag), { st with rest := [c1, c2] ++ t'' }) := by
  rw [readAttrValue_any tag st v t'' q c1 c2 hq hv hlen (by simpa using hr)]
  simp [attrDone, attrEnd, h62, h47]

/-- non-vacuity: a 1000-byte value (third window) -/
example : (readAttrValue {} 8 256 { rest := [61, 34] ++ List.replicate 1000 65 ++ [34, 32, 120] ++ [], a := true, toks := [] }).1.toOption.map (fun r => r.1.length) = some 1000 := by
  decide +kernel

/-- **An element value of any length up to 1535 bytes is returned exactly**, whichever of the 512 / 1024 / 1536-byte windows it
ends in: a window without the '<' behind the value is given up without consuming anything and the search goes on from where
it stopped in the next one. -/
theorem C13_element_value_any_length (st : St) (c : UInt8) (v' t' : Bytes)
    (hv : ∀ x ∈ c :: v', (x == 60) = false) (hc : isWs c = false) (hlen : (c :: v').length < 1536)
    (hr : st.rest = (c :: v') ++ 60 :: t') (h4 : 4 < st.rest.length) :
    readTagValue 8 512 0 0 st = (.ok (c :: v'), { st with rest := 60 :: t' }) :=
  readTagValue_any st c v' t' hv hc hlen hr h4

/-- non-vacuity: a 1200-byte value (third window) -/
example : (readTagValue 8 512 0 0 { rest := List.replicate 1200 65 ++ [60, 47], a := false, toks := [] }).1.toOption.map (·.length) = some 1200 := by
  decide +kernel

end Imeta.Props.C13
