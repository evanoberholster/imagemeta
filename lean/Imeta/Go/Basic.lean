/-
  Go semantics shared by every model: bytes, byte order, outcomes; a field standing at an offset of a buffer (`field_at`);
  the length test `lenLt` with the compiled form `lenLtFast` that does not walk the list; hex for the driver.
  Core Lean only (no Mathlib) so the driver links as a native executable.
-/
namespace Imeta

abbrev Bytes := List UInt8

/-- Error kinds: the small enum every Go error is canonicalised to. -/
inductive ErrKind where
  | noExif | dataLength | eof | unexpectedEOF | bufferFull | negativeCount
  | remainInsufficient | bufLength | wrongBoxType | largeBox | typeNotFound
  | notSupported | noJPEGMarker | endOfImage | recovered | other
  deriving DecidableEq, Repr, Inhabited

def ErrKind.name : ErrKind → String
  | .noExif => "NoExif" | .dataLength => "DataLength" | .eof => "EOF"
  | .unexpectedEOF => "UnexpectedEOF" | .bufferFull => "BufferFull"
  | .negativeCount => "NegativeCount" | .remainInsufficient => "RemainInsufficient"
  | .bufLength => "BufLength" | .wrongBoxType => "WrongBoxType" | .largeBox => "LargeBox"
  | .typeNotFound => "TypeNotFound" | .notSupported => "NotSupported"
  | .noJPEGMarker => "NoJPEGMarker" | .endOfImage => "EndOfImage"
  | .recovered => "Recovered" | .other => "Other"

/-- What a piece of Go code can do: return, return an error, panic, or not finish
within the fuel the model was given. -/
inductive Outcome (α : Type) where
  | ok (a : α)
  | err (k : ErrKind)
  | panic (site : String)
  | fuel
  deriving Repr, DecidableEq

namespace Outcome
def isPanic {α} : Outcome α → Bool | .panic _ => true | _ => false
def isFuel {α} : Outcome α → Bool | .fuel => true | _ => false
def bind {α β} (x : Outcome α) (f : α → Outcome β) : Outcome β :=
  match x with
  | .ok a => f a | .err k => .err k | .panic s => .panic s | .fuel => .fuel
instance : Monad Outcome where
  pure := .ok
  bind := Outcome.bind
end Outcome

/-- Byte order as in meta/utils: 0 unknown, 1 little, 2 big. -/
inductive ByteOrder where | unknown | little | big
  deriving DecidableEq, Repr, Inhabited

def ByteOrder.code : ByteOrder → Nat | .unknown => 0 | .little => 1 | .big => 2

def leNat : Bytes → Nat
  | [] => 0
  | b :: t => b.toNat + 256 * leNat t

def beNat (b : Bytes) : Nat := leNat b.reverse

/-- `ByteOrder.Uint16/32/64`: Go treats everything that is not BigEndian as little. -/
def ByteOrder.uint (o : ByteOrder) (b : Bytes) : Nat :=
  match o with
  | .big => beNat b
  | _ => leNat b

def leBytes : Nat → Nat → Bytes
  | 0, _ => []
  | n+1, v => UInt8.ofNat (v % 256) :: leBytes n (v / 256)

def beBytes (n v : Nat) : Bytes := (leBytes n v).reverse

def ByteOrder.put (o : ByteOrder) (n v : Nat) : Bytes :=
  match o with
  | .big => beBytes n v
  | _ => leBytes n v

theorem leBytes_length (n v : Nat) : (leBytes n v).length = n := by
  induction n generalizing v with
  | zero => rfl
  | succ n ih => simp [leBytes, ih]

theorem beBytes_length (n v : Nat) : (beBytes n v).length = n := by simp [beBytes, leBytes_length]

theorem ByteOrder.put_length (o : ByteOrder) (n v : Nat) : (o.put n v).length = n := by
  cases o <;> simp [ByteOrder.put, beBytes_length, leBytes_length]

theorem leNat_leBytes (n v : Nat) : leNat (leBytes n v) = v % 256 ^ n := by
  induction n generalizing v with
  | zero => simp [leBytes, leNat, Nat.mod_one]
  | succ n ih =>
    simp only [leBytes, leNat, ih]
    have h : (UInt8.ofNat (v % 256)).toNat = v % 256 := by
      simp [UInt8.toNat_ofNat']
    rw [h, Nat.pow_succ, Nat.mul_comm (256 ^ n) 256, Nat.mod_mul]

theorem beNat_beBytes (n v : Nat) : beNat (beBytes n v) = v % 256 ^ n := by
  simp [beNat, beBytes, leNat_leBytes]

theorem ByteOrder.uint_put (o : ByteOrder) (n v : Nat) : o.uint (o.put n v) = v % 256 ^ n := by
  cases o <;> simp [ByteOrder.uint, ByteOrder.put, leNat_leBytes, beNat_beBytes]

theorem field_at {buf p post : Bytes} {i n : Nat} (h : buf.drop i = p ++ post) (hn : p.length = n) :
    (buf.drop i).take n = p ∧ buf.drop (i + n) = post := by
  subst hn
  rw [← List.drop_drop, h]
  exact ⟨List.take_left .., List.drop_left ..⟩

/-- `b.length < n`. Compiled code uses `lenLtFast` (proved equal below), which looks at no
more than `n` cells; models use this in loops over long inputs. -/
def lenLt (b : Bytes) (n : Nat) : Bool := decide (b.length < n)

def lenLtFast : Bytes → Nat → Bool
  | _, 0 => false
  | [], _+1 => true
  | _ :: t, n+1 => lenLtFast t n

@[csimp] theorem lenLt_eq_fast : @lenLt = @lenLtFast := by
  funext b n
  induction b generalizing n with
  | nil => cases n <;> simp [lenLt, lenLtFast]
  | cons x t ih =>
    cases n with
    | zero => simp [lenLt, lenLtFast]
    | succ n => simp [lenLtFast, ← ih, lenLt]

@[simp] theorem lenLt_iff (b : Bytes) (n : Nat) : lenLt b n = true ↔ b.length < n := by simp [lenLt]

def hexDigit (c : Char) : Option Nat :=
  if '0' ≤ c ∧ c ≤ '9' then some (c.toNat - '0'.toNat)
  else if 'a' ≤ c ∧ c ≤ 'f' then some (c.toNat - 'a'.toNat + 10)
  else if 'A' ≤ c ∧ c ≤ 'F' then some (c.toNat - 'A'.toNat + 10)
  else none

def parseHexAux : List Char → Bytes → Option Bytes
  | [], acc => some acc.reverse
  | [_], _ => none
  | a :: b :: t, acc =>
    match hexDigit a, hexDigit b with
    | some x, some y => parseHexAux t (UInt8.ofNat (16 * x + y) :: acc)
    | _, _ => none

def parseHex (s : String) : Option Bytes :=
  if s == "-" then some [] else parseHexAux s.toList []

def hexChar (n : Nat) : Char :=
  if n < 10 then Char.ofNat (n + 48) else Char.ofNat (n + 87)

def toHex (b : Bytes) : String :=
  if b.isEmpty then "-" else
  String.ofList (b.foldr (fun x acc => hexChar (x.toNat / 16) :: hexChar (x.toNat % 16) :: acc) [])

end Imeta
