/-
  Shallow embedding of the Go expression fragment the translators emit:
  indexing and slicing that panic like Go, short-circuit && and ||, comparisons.
  Everything lives in the `Outcome` monad so that an out-of-range index is a
  visible `panic`, never a default value.
-/
import Imeta.Go.Basic
namespace Imeta

abbrev G := Outcome

/-- `b[i]` -/
def gidx (b : Bytes) (i : Nat) : G UInt8 :=
  match b[i]? with
  | some x => .ok x
  | none => .panic "index out of range"

/-- `b[lo:hi]` (strict: `hi ≤ len b`; see DESIGN section 4 on capacity) -/
def gslice (b : Bytes) (lo hi : Nat) : G Bytes :=
  if lo ≤ hi ∧ hi ≤ b.length then .ok ((b.drop lo).take (hi - lo)) else .panic "slice bounds out of range"

/-- `a && b` — `b` is evaluated only when `a` is true -/
def gand (a : G Bool) (b : Unit → G Bool) : G Bool :=
  a.bind fun x => if x then b () else .ok false

/-- `a || b` — `b` is evaluated only when `a` is false -/
def gor (a : G Bool) (b : Unit → G Bool) : G Bool :=
  a.bind fun x => if x then .ok true else b ()

def geq {α} [BEq α] (a b : G α) : G Bool := a.bind fun x => b.bind fun y => .ok (x == y)
def gne {α} [BEq α] (a b : G α) : G Bool := a.bind fun x => b.bind fun y => .ok (x != y)
def glt (a b : G Nat) : G Bool := a.bind fun x => b.bind fun y => .ok (decide (x < y))
def ggt (a b : G Nat) : G Bool := a.bind fun x => b.bind fun y => .ok (decide (x > y))
def gle (a b : G Nat) : G Bool := a.bind fun x => b.bind fun y => .ok (decide (x ≤ y))
def gge (a b : G Nat) : G Bool := a.bind fun x => b.bind fun y => .ok (decide (x ≥ y))

/-- `if c { t } ; e`  (statement-level conditional with a continuation) -/
def gif {α} (c : G Bool) (t : G α) (e : G α) : G α :=
  c.bind fun x => if x then t else e

@[simp] theorem Outcome.bind_ok {α β} (a : α) (f : α → Outcome β) : (Outcome.ok a).bind f = f a := rfl
@[simp] theorem Outcome.bind_panic {α β} (s : String) (f : α → Outcome β) :
    (Outcome.panic s : Outcome α).bind f = .panic s := rfl
@[simp] theorem Outcome.bind_err {α β} (k : ErrKind) (f : α → Outcome β) :
    (Outcome.err k : Outcome α).bind f = .err k := rfl

@[simp] theorem gand_ok (a b : Bool) : gand (.ok a) (fun _ => .ok b) = .ok (a && b) := by
  cases a <;> rfl
@[simp] theorem gor_ok (a b : Bool) : gor (.ok a) (fun _ => .ok b) = .ok (a || b) := by
  cases a <;> rfl
@[simp] theorem geq_ok {α} [BEq α] (x y : α) : geq (.ok x) (.ok y) = .ok (x == y) := rfl
@[simp] theorem gne_ok {α} [BEq α] (x y : α) : gne (.ok x) (.ok y) = .ok (x != y) := rfl
@[simp] theorem glt_ok (x y : Nat) : glt (.ok x) (.ok y) = .ok (decide (x < y)) := rfl
@[simp] theorem ggt_ok (x y : Nat) : ggt (.ok x) (.ok y) = .ok (decide (x > y)) := rfl
@[simp] theorem gle_ok (x y : Nat) : gle (.ok x) (.ok y) = .ok (decide (x ≤ y)) := rfl
@[simp] theorem gge_ok (x y : Nat) : gge (.ok x) (.ok y) = .ok (decide (x ≥ y)) := rfl
@[simp] theorem gif_ok {α} (c : Bool) (t e : G α) : gif (.ok c) t e = if c then t else e := by
  cases c <;> rfl

theorem gidx_ok (b : Bytes) (i : Nat) (h : i < b.length) : gidx b i = .ok b[i] := by
  simp [gidx, List.getElem?_eq_getElem h]

theorem gslice_ok (b : Bytes) (lo hi : Nat) (h1 : lo ≤ hi) (h2 : hi ≤ b.length) :
    gslice b lo hi = .ok ((b.drop lo).take (hi - lo)) := by
  simp [gslice, h1, h2]

theorem gidx_zero (a : UInt8) (l : Bytes) : gidx (a :: l) 0 = .ok a := rfl

theorem gidx_succ (a : UInt8) (l : Bytes) (k : Nat) : gidx (a :: l) (k + 1) = gidx l k := by
  simp only [gidx, List.getElem?_cons_succ]

theorem gslice_succ (a : UInt8) (l : Bytes) (lo hi : Nat) : gslice (a :: l) (lo + 1) (hi + 1) = gslice l lo hi := by
  simp only [gslice, List.length_cons, Nat.add_le_add_iff_right, List.drop_succ_cons, Nat.add_sub_add_right]

theorem gslice_zero (l : Bytes) : gslice l 0 0 = .ok [] := by
  simp only [gslice, Nat.le_refl, Nat.zero_le, and_self, if_true, List.drop_zero, Nat.sub_self, List.take_zero]

theorem gslice_cons (a : UInt8) (l : Bytes) (hi : Nat) :
    gslice (a :: l) 0 (hi + 1) = (gslice l 0 hi).bind fun t => .ok (a :: t) := by
  simp only [gslice, Nat.zero_le, true_and, List.length_cons, Nat.add_le_add_iff_right, List.drop_zero, Nat.sub_zero,
    List.take_succ_cons]
  split <;> rfl

end Imeta
