/-
  C02 — the number of bytes png.ScanPngHeader asks of its source (an in-memory io.ReadSeeker that delivers what it has up to
  the length asked for).  Every header is read with io.ReadFull into 8 bytes: a full answer costs 8; at the end of the source
  the first Read gets what is left and a second Read, for the rest, gets nothing.
-/
import Imeta.Model.Png
namespace Imeta.Png
open Imeta

/-- io.ReadFull(r, buf[:8]) at a position where fewer than 8 bytes are left -/
def failReq (b : Bytes) (pos : Nat) : Nat :=
  if pos < b.length then 8 + (8 - (b.length - pos)) else 8

/-- bytes requested by the chunk loop from position `pos` on (mirrors `chunks`) -/
def chunksReq (b : Bytes) : Nat → Nat → Nat
  | 0, _ => 0
  | f+1, pos =>
    match read8 b pos with
    | none => failReq b pos
    | some h =>
      let length := beNat (h.take 4)
      if h.drop 4 == eXIf then
        (match read8 b (pos + 8) with
         | none => 8 + failReq b (pos + 8)
         | some _ => 16)
      else 8 + chunksReq b f (pos + 8 + (length + 4) % 2 ^ 32)

def scanReq (b : Bytes) : Nat :=
  match read8 b 0 with
  | none => failReq b 0
  | some s => if s == signature then 8 + chunksReq b (b.length / 8 + 2) 8 else 8

end Imeta.Png
