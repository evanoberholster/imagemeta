-- every module of the library, so that a bare `lake build` checks all of it
import Imeta.Driver.Bmff
import Imeta.Driver.Bufio
import Imeta.Driver.Codec
import Imeta.Driver.Dct
import Imeta.Driver.Enums
import Imeta.Driver.Exif
import Imeta.Driver.Gen
import Imeta.Driver.Hash
import Imeta.Driver.ImageType
import Imeta.Driver.Jpeg
import Imeta.Driver.Png
import Imeta.Driver.Tiff
import Imeta.Driver.Xmp
import Imeta.Gen.AsmDct
import Imeta.Gen.AsmGray
import Imeta.Gen.Codec
import Imeta.Gen.Enums
import Imeta.Gen.ExifTables
import Imeta.Gen.Facts
import Imeta.Gen.ImageType
import Imeta.Gen.Msgp
import Imeta.Go.Basic
import Imeta.Go.Expr
import Imeta.Go.Int
import Imeta.Lemmas.AsmSem
import Imeta.Lemmas.AvxNat
import Imeta.Lemmas.Bmff
import Imeta.Lemmas.BmffIloc
import Imeta.Lemmas.BmffTotal
import Imeta.Lemmas.BmffWalks
import Imeta.Lemmas.BufioRead
import Imeta.Lemmas.Codec
import Imeta.Lemmas.Enums
import Imeta.Lemmas.Exif
import Imeta.Lemmas.ExifCheck
import Imeta.Lemmas.ExifExact
import Imeta.Lemmas.ExifField
import Imeta.Lemmas.ExifForward
import Imeta.Lemmas.ExifNested
import Imeta.Lemmas.ExifValue
import Imeta.Lemmas.ExifWalk
import Imeta.Lemmas.Hash
import Imeta.Lemmas.ImageType
import Imeta.Lemmas.Jpeg
import Imeta.Lemmas.JpegFraming
import Imeta.Lemmas.Outcome
import Imeta.Lemmas.Png
import Imeta.Lemmas.QSelect
import Imeta.Lemmas.SimpAttr
import Imeta.Lemmas.Tiff
import Imeta.Lemmas.TiffReq
import Imeta.Lemmas.Utf8
import Imeta.Lemmas.XmpAttr
import Imeta.Lemmas.XmpElem
import Imeta.Lemmas.XmpPacket
import Imeta.Lemmas.XmpStep
import Imeta.Lemmas.XmpTotal
import Imeta.Lemmas.XmpTree
import Imeta.Model.AsmSem
import Imeta.Model.AvxSem
import Imeta.Model.Bmff
import Imeta.Model.Bufio
import Imeta.Model.Codec
import Imeta.Model.Conc
import Imeta.Model.Exif
import Imeta.Model.ExifReader
import Imeta.Model.ExifTables
import Imeta.Model.Hash
import Imeta.Model.ImageType
import Imeta.Model.Jpeg
import Imeta.Model.Png
import Imeta.Model.PngReq
import Imeta.Model.Tiff
import Imeta.Model.TiffReq
import Imeta.Model.Xmp
import Imeta.Props.C01
import Imeta.Props.C02
import Imeta.Props.C03
import Imeta.Props.C04
import Imeta.Props.C05
import Imeta.Props.C06
import Imeta.Props.C07
import Imeta.Props.C08
import Imeta.Props.C09
import Imeta.Props.C10
import Imeta.Props.C11
import Imeta.Props.C12
import Imeta.Props.C13
import Imeta.Props.C13b
import Imeta.Props.C13c
import Imeta.Props.C13d
import Imeta.Props.C13e
import Imeta.Props.C13f
import Imeta.Props.C13g
import Imeta.Props.C13h
import Imeta.Props.C13i
import Imeta.Props.C13j
import Imeta.Props.C14
import Imeta.Props.C15
import Imeta.Props.C16
import Imeta.Props.C17
import Imeta.Props.C18
import Imeta.Props.C19
import Imeta.Props.C20
import Imeta.Spec.Enums
import Imeta.Spec.ImageType
import Imeta.Spec.Jpeg
